/-
  C01 — compress then clone reproduces the source byte-for-byte.
-/
import Bita.Proofs.Writer
import Bita.Proofs.CloneNoJunk
import Bita.Proofs.Schedule
import Bita.Proofs.CliRoundtrip
import Bita.Proofs.CliRoundtripExamples
import Bita.Proofs.ReaderEnv
import Bita.Proofs.Options
import Bita.Proofs.OptionsCompose

namespace Bita.Props.C01
open Bita Bita.Spec Bita.Proofs

/-- **T1.**  For every source (empty, shorter than a window or a minimum chunk, larger than any
buffer - all just values of `src`), every valid configuration, hash length, compression setting
and metadata, for both writers and *any* codec that round-trips (so also when a compressed chunk
is exactly as long as the chunk), the archive produced conforms to the format and describes the
source, recording its true size and checksum - or two different source chunks have the same
full strong hash. -/
theorem compress_conforms (H : Bytes → Bytes) (hH : ∀ x, (H x).length = 64)
    (writer : String) (hw : writer = "lib" ∨ writer = "cli")
    (comp : Bytes → Bytes) (decomp : Nat → Bytes → Nat → Option Bytes) (hcodec : CodecOK comp decomp)
    (hne : ∀ x, x ≠ [] → comp x ≠ [])
    (o : CompressOpts) (ho : OptsOK o) (src : Bytes)
    (hfit : (createArchive H writer comp o src).length < 2 ^ 63)
    (hsrc : src.length < 2 ^ 64) (hcnt : (chunkAll o.cfg src).length ≤ 2 ^ 32) :
    Conforms H decomp [] (createArchive H writer comp o src) src ∨
    (∃ c1 ∈ chunkAll o.cfg src, ∃ c2 ∈ chunkAll o.cfg src,
      slice src c1.1 c1.2 ≠ slice src c2.1 c2.2 ∧ H (slice src c1.1 c1.2) = H (slice src c2.1 c2.2)) :=
  createArchive_conforms H hH writer hw comp decomp hcodec hne o ho src hfit hsrc hcnt

/-- **T2 (round trip).**  Cloning what compress produced - through the local or (by C08) the HTTP
reader, with any seeds, any prior output, in place or not - reports success and yields exactly
the source, with exactly the source's length; or a hash collision is exhibited.  The only
escape on the clone side is a collision of the truncated strong hash with a genuine source
chunk; colliding junk chunks in the prior output are irrelevant (`Proofs.Planner.reorderOps_keep`). -/
theorem roundtrip (H : Bytes → Bytes) (hH : ∀ x, (H x).length = 64)
    (writer : String) (hw : writer = "lib" ∨ writer = "cli")
    (comp : Bytes → Bytes) (decomp : Nat → Bytes → Nat → Option Bytes) (hcodec : CodecOK comp decomp)
    (hne : ∀ x, x ≠ [] → comp x ≠ [])
    (o : CompressOpts) (ho : OptsOK o) (src : Bytes)
    (hfit : (createArchive H writer comp o src).length < 2 ^ 63)
    (hsrc : src.length < 2 ^ 64) (hcnt : (chunkAll o.cfg src).length ≤ 2 ^ 32)
    (opts : CloneOpts) (prior : Bytes) (seeds : List Bytes) (hpin : opts.headerPin = none)
    (hdev : opts.blockDev = false) :
    let archive := createArchive H writer comp o src
    let r := Clone.run H decomp [] (honestReadAt archive) (honestReadChunks archive) opts prior seeds
    (r.result = .ok ∧ r.output = src) ∨
    (∃ c1 ∈ chunkAll o.cfg src, ∃ c2 ∈ chunkAll o.cfg src,
      slice src c1.1 c1.2 ≠ slice src c2.1 c2.2 ∧ H (slice src c1.1 c1.2) = H (slice src c2.1 c2.2)) ∨
    (∃ (a : Archive) (cks : List Bytes), Collision H a.hashLength cks ∧ src = cks.flatten) := by
  intro archive r
  exact (Proofs.roundtrip_opened H hH writer hw comp decomp hcodec hne o ho src hfit hsrc hcnt opts prior seeds
    hpin hdev).imp_right (.imp_right fun ⟨a, cks, _, hd, hcoll⟩ => ⟨a, cks, hcoll, hd.tiles⟩)

/-- **T2 at the command line** (file-system model of `bita compress` / `bita clone`, open flags and
step order read from the source): in any file system where the input exists and the archive and
temp paths do not, `compress` succeeds; `clone` of the archive it left - into a path that does
not exist, or over a regular file with `--force-create` / `--seed-output`, with any seed files
that exist, any options - succeeds, leaves exactly the source in the output and changes no other
path; or a hash collision among the chunks of the source is exhibited (chunks of an existing
output that collide with no source chunk are irrelevant). -/
theorem cli_roundtrip (H : Bytes → Bytes) (hH : ∀ x, (H x).length = 64)
    (comp : Bytes → Bytes) (decomp : Nat → Bytes → Nat → Option Bytes) (hcodec : CodecOK comp decomp)
    (hne : ∀ x, x ≠ [] → comp x ≠ [])
    (cc : CompressCmd) (kc : CloneCmd) (fs : Fs) (inode : Node)
    (hfacts : FactsAsExpected) (hflush : Gen.cliTempFlushedBeforeReturn = true)
    (ho : OptsOK cc.opts)
    (hin : fs.get cc.input = some inode)
    (hnew : fs.get cc.output = none) (htmp : fs.get cc.temp = none)
    (hdistinct : cc.temp ≠ cc.output ∧ cc.input ≠ cc.output ∧ cc.input ≠ cc.temp)
    (hfit : (createArchive H "cli" comp cc.opts inode.data).length < 2 ^ 63)
    (hsrc : inode.data.length < 2 ^ 64) (hcnt : (chunkAll cc.opts.cfg inode.data).length ≤ 2 ^ 32)
    (harch : kc.archivePath = cc.output) (hko : kc.output ≠ cc.output)
    (hout : fs.get kc.output = none ∨
      ((kc.flags.force = true ∨ kc.flags.seedOutput = true) ∧ ∃ d, fs.get kc.output = some (.regular d)))
    (hpin : kc.pin = none)
    (hseeds : ∀ p ∈ kc.seedPaths, (fs.get p).isSome ∨ p = cc.output) :
    let r1 := Cli.compress H comp cc fs
    let r2 := Cli.clone H decomp kc r1.fs
    r1.ok = true ∧
    ((r2.ok = true ∧ r2.fs.get kc.output = some (.regular inode.data) ∧
        (∀ p, p ≠ kc.output → p ≠ cc.output → r2.fs.get p = fs.get p)) ∨
      (∃ c1 ∈ chunkAll cc.opts.cfg inode.data, ∃ c2 ∈ chunkAll cc.opts.cfg inode.data,
        slice inode.data c1.1 c1.2 ≠ slice inode.data c2.1 c2.2 ∧
        H (slice inode.data c1.1 c1.2) = H (slice inode.data c2.1 c2.2)) ∨
      (∃ (a : Archive) (cks : List Bytes), Collision H a.hashLength cks ∧ inode.data = cks.flatten)) :=
  Proofs.cli_roundtrip H hH comp decomp hcodec hne cc kc fs inode hfacts hflush ho hin hnew htmp hdistinct
    hfit hsrc hcnt harch hko hout hpin hseeds

/-- **T2 over HTTP.**  What compress produced, behind an honest server and the model of
`HttpReader` with at most `--http-retry-count` failing responses (refused or cut anywhere, any
fragmentation), clones to exactly the source - or a hash collision among the chunks of the
source is exhibited. -/
theorem roundtrip_over_http (H : Bytes → Bytes) (hH : ∀ x, (H x).length = 64)
    (writer : String) (hw : writer = "lib" ∨ writer = "cli")
    (comp : Bytes → Bytes) (decomp : Nat → Bytes → Nat → Option Bytes) (hcodec : CodecOK comp decomp)
    (hne : ∀ x, x ≠ [] → comp x ≠ [])
    (o : CompressOpts) (ho : OptsOK o) (src : Bytes)
    (hfit : (createArchive H writer comp o src).length < 2 ^ 63)
    (hsrc : src.length < 2 ^ 64) (hcnt : (chunkAll o.cfg src).length ≤ 2 ^ 32)
    (e : HttpEnv) (opts : CloneOpts) (prior : Bytes) (seeds : List Bytes) (hpin : opts.headerPin = none)
    (hdev : opts.blockDev = false)
    (hserve : e.serve = honestServe (createArchive H writer comp o src))
    (hat : ∀ off size, ∃ frags rest, e.atScript off size = Resp.full frags :: rest)
    (hbad : (e.chunksScript.filter (fun r => match r with | .full _ => false | .part _ _ cut => cut | .refuse => true)).length ≤ e.retry)
    (hnoend : ∀ r ∈ e.chunksScript, ∀ n frags, r ≠ Resp.part n frags false)
    :
    (∃ a, tryInit H [] (honestReadAt (createArchive H writer comp o src)) = .ok a ∧
      (a.chunks.length ≤ (e.chunksScript.filter (fun r => match r with | .full _ => true | _ => false)).length →
        let r := Clone.run H decomp [] e.readAt e.readChunks opts prior seeds
        (r.result = .ok ∧ r.output = src) ∨
        (∃ cks : List Bytes, Collision H a.hashLength cks ∧ src = cks.flatten))) ∨
    (∃ c1 ∈ chunkAll o.cfg src, ∃ c2 ∈ chunkAll o.cfg src,
      slice src c1.1 c1.2 ≠ slice src c2.1 c2.2 ∧ H (slice src c1.1 c1.2) = H (slice src c2.1 c2.2)) := by
  rcases createArchive_conforms H hH writer hw comp decomp hcodec hne o ho src hfit hsrc hcnt with
    ⟨a, cks, hinit, hd, hs⟩ | hcol
  · refine .inl ⟨a, hinit, fun hlen => ?_⟩
    rcases clone_http_complete_budget H hH decomp [] _ e opts prior seeds a src cks hserve hat hinit hd hs
      (fun _ hp => nomatch hpin.symm.trans hp) (fun h => nomatch hdev.symm.trans h) hbad hnoend hlen with
      ⟨hok, _, hout⟩ | hcoll
    · exact .inl ⟨hok, hout hdev⟩
    · exact .inr ⟨cks, hcoll, hd.tiles⟩
  · exact .inr hcol

/-- **T3a (thread timing).**  Every `spawn_blocking` stage of the pipelines is followed by
`buffered` (read from the source), and `buffered(n)` emits its inputs in order under *every*
completion schedule - so the result of the pipeline is the one of the sequential model. -/
theorem stages_preserve_order {α : Type} (n : Nat) (xs : List α) (sched : List SchedEv) :
    (∀ c ∈ Gen.libCompressCombinators ++ Gen.cliCompressCombinators ++ Gen.cloneSeedCombinators ++
        Gen.cloneArchiveCombinators ++ Gen.cloneScanCombinators, c = "buffered") ∧
    (let s := stageRun "buffered" n xs sched
     s.out ++ s.inflight.map (·.1) ++ s.input = xs ∧ (s.inflight = [] → s.input = [] → s.out = xs)) :=
  ⟨by decide, buffered_preserves_order n xs sched, buffered_complete n xs sched⟩

/-- **T3b (I/O timing).**  In the CLI writer the temp file that is copied after the header holds
all stored chunks whatever the timing of the last background write, because the source flushes
it before returning (F4 repair; `Gen.cliTempFlushedBeforeReturn`). -/
theorem temp_file_complete (late : Bool) (chunks : List Bytes) :
    Gen.cliTempFlushedBeforeReturn = true ∧ tempFileSeen true late chunks = chunks.flatten :=
  ⟨flushes_are_in_the_source.1, Proofs.temp_file_complete late chunks⟩

/-- The defect this rules out, kept as a witness: without the flush a late last write leaves the
archive truncated. -/
example : tempFileSeen false true [[1, 2], [3]] = [1, 2] := by decide +kernel

/-! Non-vacuity: round trips of the empty source, a one-byte source and a source with duplicate
chunks under a toy hash, both writers. -/
def toyH (x : Bytes) : Bytes := (x ++ List.replicate 64 0).take 64

example :
    (∀ w ∈ ["lib", "cli"], ∀ src ∈ ([[], [5], [1, 2, 3, 1, 2, 3, 9]] : List Bytes),
      let archive := createArchive toyH w id ⟨.fixed 3, 8, none, []⟩ src
      (Clone.run toyH (fun _ b _ => some b) [] (honestReadAt archive) (honestReadChunks archive) {} [] []).result = .ok ∧
      (Clone.run toyH (fun _ b _ => some b) [] (honestReadAt archive) (honestReadChunks archive) {} [] []).output = src) := by
  decide +kernel

/-- The library writer flushes its temp file before reading it back (read from api/compress.rs on
every run; F16 repair), as the command line writer does (`Gen.cliTempFlushedBeforeReturn`). -/
theorem lib_temp_file_flushed_fact : Gen.libTempFlushedBeforeRewind = true := by decide


/-- **"Any valid parameters", from the command line.**  The hypothesis `OptsOK` of the theorems above
is not a wish: for every `bita compress` command line that the option parser (src/cli.rs, modelled
in `Bita.Model.Options` and tied by the in-process suite `l1 opts`) accepts, it holds iff the
configuration is outside an exactly characterised misuse set (zero window, BuzHash window above the
maximum chunk size, a target average of 2 or 3, fixed size 0 - none of which any chunker can run). -/
theorem cli_accepted_options_are_valid (a : Options.CompressArgs) (p : Options.CompressParsed)
    (h : Options.parseCompress a = .ok p) :
    OptsOK p.cmd.opts ↔ Proofs.NotMisuse p.cmd.opts.cfg :=
  Proofs.cli_options_ok_iff a p h

/-- **T2 from the command-line texts.**  `bita compress <options> -i IN ARCHIVE` followed by
`bita clone <options> ARCHIVE OUT`, for every pair of command lines the option parser accepts
(`Options.parseCompress` / `Options.parseClone`, the model of src/cli.rs) with a configuration outside
the misuse set and no `--verify-header`: in any file system where IN exists and ARCHIVE and its temp
path do not, compress succeeds, and the clone - into a new path, or over a regular file with
`--force-create` / `--seed-output`, with any `--seed` files that exist - succeeds and leaves exactly
IN's bytes in OUT, every other path as it was; or a hash collision is exhibited.  `OptsOK`, the temp
path, the flags and the seed list are no longer hypotheses: they are what the texts parse to. -/
theorem cli_roundtrip_from_the_command_line (H : Bytes → Bytes) (hH : ∀ x, (H x).length = 64)
    (comp : Bytes → Bytes) (decomp : Nat → Bytes → Nat → Option Bytes) (hcodec : CodecOK comp decomp)
    (hne : ∀ x, x ≠ [] → comp x ≠ [])
    (ca : Options.CompressArgs) (pc : Options.CompressParsed) (hpc : Options.parseCompress ca = .ok pc)
    (hm : Proofs.NotMisuse pc.cmd.opts.cfg) (inp : String) (hinp : ca.input = some inp)
    (ka : Options.CloneArgs) (pk : Options.CloneParsed) (hpk : Options.parseClone ka = .ok pk)
    (harch : ka.archive = ca.output) (hnopin : ka.verifyHeader = none)
    (fs : Fs) (inode : Node) (hfacts : FactsAsExpected) (hflush : Gen.cliTempFlushedBeforeReturn = true)
    (hin : fs.get inp = some inode)
    (hnew : fs.get ca.output = none) (htmp : fs.get (tempPathOf ca.output) = none)
    (hdistinct : tempPathOf ca.output ≠ ca.output ∧ inp ≠ ca.output ∧ inp ≠ tempPathOf ca.output)
    (hfit : (createArchive H "cli" comp pc.cmd.opts inode.data).length < 2 ^ 63)
    (hsrc : inode.data.length < 2 ^ 64) (hcnt : (chunkAll pc.cmd.opts.cfg inode.data).length ≤ 2 ^ 32)
    (hko : ka.output ≠ ca.output)
    (hout : fs.get ka.output = none ∨
      ((ka.force = true ∨ ka.seedOutput = true) ∧ ∃ d, fs.get ka.output = some (.regular d)))
    (hseeds : ∀ p ∈ ka.seeds, p ≠ "-" → (fs.get p).isSome ∨ p = ca.output) :
    let r1 := Cli.compress H comp pc.cmd fs
    let r2 := Cli.clone H decomp pk.cmd r1.fs
    r1.ok = true ∧
    ((r2.ok = true ∧ r2.fs.get ka.output = some (.regular inode.data) ∧
        (∀ p, p ≠ ka.output → p ≠ ca.output → r2.fs.get p = fs.get p)) ∨
      (∃ c1 ∈ chunkAll pc.cmd.opts.cfg inode.data, ∃ c2 ∈ chunkAll pc.cmd.opts.cfg inode.data,
        slice inode.data c1.1 c1.2 ≠ slice inode.data c2.1 c2.2 ∧
        H (slice inode.data c1.1 c1.2) = H (slice inode.data c2.1 c2.2)) ∨
      (∃ (a : Archive) (cks : List Bytes), Collision H a.hashLength cks ∧ inode.data = cks.flatten)) := by
  have ho : OptsOK pc.cmd.opts := (Proofs.cli_options_ok_iff ca pc hpc).2 hm
  -- with the parsed command put in place of `pc`, what `compress` is handed computes from `ca`
  obtain ⟨_, _, _, _, -, -, -, rfl⟩ := Proofs.parseCompress_eq_ok hpc
  obtain ⟨hkout, hkarch, hkfl, hkseeds, -, hkpin, -⟩ := Proofs.parseClone_ok ka pk hpk
  have hi : ca.input.getD "" = inp := by rw [hinp]; rfl
  have := Proofs.cli_roundtrip H hH comp decomp hcodec hne _ pk.cmd fs inode hfacts hflush ho
    (hi ▸ hin) hnew htmp (hi ▸ hdistinct) hfit hsrc hcnt (hkarch.trans harch) (hkout ▸ hko)
    (by rw [hkout, hkfl]; exact hout) (hkpin hnopin)
    fun p hp => by
      rw [hkseeds] at hp
      exact hseeds p (List.mem_filter.1 hp).1 (of_decide_eq_true (List.mem_filter.1 hp).2)
  rwa [hkout] at this

end Bita.Props.C01
