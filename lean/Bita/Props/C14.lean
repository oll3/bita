/-
  C14 — a refused operation leaves the output untouched.

  File-system level (`Bita.Model.Cli`): the `OpenOptions` flag expressions and the order of the
  steps are read from the source (`Bita.Gen.Facts`); the file system is universally quantified.
-/
import Bita.Proofs.CliFs
import Bita.Proofs.Options

namespace Bita.Props.C14
open Bita Bita.Gen Bita.Proofs

/-- The facts read from the source are the ones the model was written for (order of the steps
of `clone_archive` / `compress_cmd`: archive opened and pinned before the output is opened,
device check before any scan or write; read-only opens of archive and seeds; no other
file-system call in clone_cmd.rs). -/
theorem facts_as_expected : FactsAsExpected := factsAsExpected

/-- (a) the archive is invalid: no output is created, nothing is changed, exit is non-zero. -/
theorem refused_invalid_archive (H : Bytes → Bytes) (decomp : Nat → Bytes → Nat → Option Bytes)
    (c : CloneCmd) (fs : Fs) (an : Node) (ha : fs.get c.archivePath = some an)
    (hbad : ∀ a, tryInit H [] (honestReadAt an.data) ≠ .ok a) :
    let r := Cli.clone H decomp c fs
    r.ok = false ∧ r.fs = fs ∧ ∀ op ∈ r.ops, FsOp.isReadOnly op = true := by
  dsimp only
  rcases cli_clone_cases H decomp c fs with ⟨_, ops, heq, hops⟩ | ⟨an', a, ha', hok, _⟩
  · rw [heq]; exact ⟨rfl, rfl, fun op h => by rw [hops op h]; rfl⟩
  · rw [ha] at ha'; cases ha'; exact absurd hok (hbad a)

/-- (b) the expected header checksum does not match: the same. -/
theorem refused_pin_mismatch (H : Bytes → Bytes) (decomp : Nat → Bytes → Nat → Option Bytes)
    (c : CloneCmd) (fs : Fs) (an : Node) (ha : fs.get c.archivePath = some an) (a : Archive)
    (hok : tryInit H [] (honestReadAt an.data) = .ok a) (pin : Bytes) (hp : c.pin = some pin)
    (hne : pin ≠ a.headerChecksum) :
    let r := Cli.clone H decomp c fs
    r.ok = false ∧ r.fs = fs ∧ ∀ op ∈ r.ops, FsOp.isReadOnly op = true := by
  dsimp only
  rcases cli_clone_cases H decomp c fs with ⟨_, ops, heq, hops⟩ | ⟨an', a', ha', hok', hpin, _⟩
  · rw [heq]; exact ⟨rfl, rfl, fun op h => by rw [hops op h]; rfl⟩
  · rw [ha] at ha'; cases ha'; rw [hok] at hok'; cases hok'
    exact absurd (pinBad_eq_false_iff.1 hpin pin hp) hne

/-- (c) the output exists and neither `--force-create` nor `--seed-output` was given. -/
theorem refused_output_exists (H : Bytes → Bytes) (decomp : Nat → Bytes → Nat → Option Bytes)
    (c : CloneCmd) (fs : Fs) (n : Node) (hout : fs.get c.output = some n)
    (hf : c.flags.force = false) (hs : c.flags.seedOutput = false) :
    let r := Cli.clone H decomp c fs
    r.ok = false ∧ r.fs = fs := by
  dsimp only
  rcases cli_clone_cases H decomp c fs with
    ⟨_, ops, heq, _⟩ | ⟨an, a, _, _, _, ⟨_, heq⟩ | ⟨fs1, onode, ho, _⟩⟩
  · rw [heq]; exact ⟨rfl, rfl⟩
  · rw [heq]; exact ⟨rfl, rfl⟩
  · rw [fs_openOut_exists (cloneFlags c.flags) hout (by simp [cloneFlags, hf, hs])] at ho; cases ho

/-- (d) the output is a block device smaller than the source: refused before any write. -/
theorem refused_small_device (H : Bytes → Bytes) (decomp : Nat → Bytes → Nat → Option Bytes)
    (c : CloneCmd) (fs : Fs) (hfs : (fs.map (·.1)).Nodup) (an : Node) (ha : fs.get c.archivePath = some an)
    (a : Archive) (hok : tryInit H [] (honestReadAt an.data) = .ok a)
    (dev : Bytes) (hout : fs.get c.output = some (.blockdev dev)) (hsmall : dev.length < a.sourceTotalSize) :
    let r := Cli.clone H decomp c fs
    r.ok = false ∧ r.fs = fs := by
  dsimp only
  rcases cli_clone_cases H decomp c fs with
    ⟨_, ops, heq, _⟩ | ⟨an', a', ha', hok', _, ⟨_, heq⟩ | ⟨fs1, onode, ho, hget, heq⟩⟩
  · rw [heq]; exact ⟨rfl, rfl⟩
  · rw [heq]; exact ⟨rfl, rfl⟩
  · rw [ha] at ha'; cases ha'; rw [hok] at hok'; cases hok'
    -- a device is neither created nor truncated: the open fails or changes nothing
    cases hcn : (cloneFlags c.flags).createNew with
    | true => rw [fs_openOut_exists _ hout hcn] at ho; cases ho
    | false =>
      rw [fs_openOut_present _ hout hcn rfl] at ho; cases ho
      rw [hout] at hget; cases hget
      rw [heq]
      exact cliCloneRun_small decomp hfs _ hok hout hsmall

/-- (e) compress into an existing output without `--force-create`. -/
theorem compress_refused_output_exists (H : Bytes → Bytes) (comp : Bytes → Bytes) (c : CompressCmd) (fs : Fs)
    (n : Node) (hout : fs.get c.output = some n) (hf : c.flags.force = false) :
    let r := Cli.compress H comp c fs
    r.ok = false ∧ r.fs = fs := by
  dsimp only
  rw [cli_compress_eq, fs_openOut_exists (compressFlags c.flags) hout (by simp [compressFlags, hf])]
  exact ⟨rfl, rfl⟩

/-! Non-vacuity: the table rows on a concrete file system. -/
def toyH (x : Bytes) : Bytes := (x ++ List.replicate 64 0).take 64
def arch : Bytes := createArchive toyH "lib" id ⟨.fixed 3, 8, none, []⟩ [1, 2, 3, 4, 5, 6, 7]
def fs0 : Fs := [("a.cba", .regular arch), ("out", .regular [9, 9]), ("dev", .blockdev [0, 0, 0]), ("bad.cba", .regular [1, 2, 3])]

example :
    -- existing output, no flag: refused, untouched; with --force-create: cloned
    (Cli.clone toyH (fun _ b _ => some b) ⟨⟨false, false, false⟩, none, "out", "a.cba", []⟩ fs0).ok = false ∧
    (Cli.clone toyH (fun _ b _ => some b) ⟨⟨false, false, false⟩, none, "out", "a.cba", []⟩ fs0).fs = fs0 ∧
    (Cli.clone toyH (fun _ b _ => some b) ⟨⟨true, false, false⟩, none, "out", "a.cba", []⟩ fs0).fs.get "out"
      = some (.regular [1, 2, 3, 4, 5, 6, 7]) ∧
    -- too small a device, in place: refused, untouched
    (Cli.clone toyH (fun _ b _ => some b) ⟨⟨false, true, false⟩, none, "dev", "a.cba", []⟩ fs0).fs = fs0 ∧
    -- invalid archive, absent output: nothing created
    (Cli.clone toyH (fun _ b _ => some b) ⟨⟨false, false, false⟩, none, "new", "bad.cba", []⟩ fs0).fs = fs0 := by
  decide +kernel

/-- The option parser refuses a `--verify-header` value longer than a checksum (read from cli.rs on
every run; F15 repair): what reaches the comparison is the value that was typed, not its first
64 bytes. -/
theorem pin_length_checked_fact : Gen.pinLengthChecked = true := by decide


/-! ### From the command line (src/cli.rs modelled in `Bita.Model.Options`, tied by `l1 opts`) -/

/-- (c) from the texts: if the output exists and neither `--force-create` nor `--seed-output` is on
the command line, then whatever else is (seeds - the output's own name among them -, a pin, any
archive), the clone is refused and the file system is unchanged: the flags `clone_cmd` sees are
exactly the ones given. -/
theorem cli_refused_output_exists (H : Bytes → Bytes) (decomp : Nat → Bytes → Nat → Option Bytes)
    (a : Options.CloneArgs) (p : Options.CloneParsed) (hp : Options.parseClone a = .ok p)
    (fs : Fs) (n : Node) (hout : fs.get a.output = some n) (hf : a.force = false) (hs : a.seedOutput = false) :
    let r := Cli.clone H decomp p.cmd fs
    r.ok = false ∧ r.fs = fs := by
  obtain ⟨ho, _, hfl, _⟩ := Proofs.parseClone_ok a p hp
  exact refused_output_exists H decomp p.cmd fs n (ho ▸ hout) (by rw [hfl]; exact hf) (by rw [hfl]; exact hs)

/-- (b) from the texts: a `--verify-header` text that is given always becomes a pin (it is never
dropped), and that pin is what the text denotes - so with (b) above, a text that does not denote
the archive's header checksum refuses the clone without touching anything. -/
theorem cli_pin_is_never_dropped (a : Options.CloneArgs) (p : Options.CloneParsed)
    (hp : Options.parseClone a = .ok p) (t : Bytes) (ht : a.verifyHeader = some t) :
    ∃ v, p.cmd.pin = some v ∧ Options.parseHashSum t = .ok v :=
  (Proofs.parseClone_ok a p hp).2.2.2.2.2.2.1 t ht

end Bita.Props.C14
