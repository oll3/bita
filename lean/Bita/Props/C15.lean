/-
  C15 — untrusted archives/servers yield errors, never panics, aborts or unbounded work.

  The model of the open path (`tryInit`, `banner`, `sourceChunks`) and of the HTTP reader has an
  explicit branch for every Rust operation that can panic on untrusted input; the theorems say
  those branches are unreachable.  Which operations those are is the modeller's reading of the
  code: the correspondence generators (structure-aware mutation under a recomputed checksum,
  every worker under catch_unwind / a watchdog) are what ties that reading to the code.
-/
import Bita.Proofs.TryInit
import Bita.Proofs.HttpSafe
import Bita.Proofs.SpecChunks
import Bita.Proofs.ChunkRule
import Bita.Proofs.ChunkStream
import Bita.Proofs.ReaderEnv
import Bita.Proofs.Alloc
import Bita.Proofs.ScanMemory
import Bita.Proofs.Sink
import Bita.Proofs.ProtoSkip

namespace Bita.Props.C15
open Bita Bita.Spec

/-- **T1.**  For every byte string behind an honest reader, and every behaviour of a reader that
keeps the `read_at` contract (exactly `size` bytes, or an error), opening ends in success or a
reported error: neither a panic branch nor the abort branch of the model is reachable. -/
theorem tryInit_total (H : Bytes → Bytes) (features : List Nat) (read : Nat → Nat → Option Bytes)
    (hr : Proofs.ExactReader read) :
    (∃ a, tryInit H features read = .ok a) ∨ (∃ w, tryInit H features read = .invalid w) ∨
      tryInit H features read = .readerErr :=
  Proofs.tryInit_total H features read hr

/-- **T1 over HTTP / through the local reader.**  The contract is met by the models of both
readers under *every* behaviour of what is below them - any server (any bytes of any length,
error pages, nothing), any transport failure script and retry budget; any short-read /
`Pending` / error script -, so opening any remote or local archive ends in success, a reported
format error or a reported reader error. -/
theorem remote_open_total (H : Bytes → Bytes) (features : List Nat) (e : HttpEnv) :
    (∃ a, tryInit H features e.readAt = .ok a) ∨ (∃ w, tryInit H features e.readAt = .invalid w) ∨
      tryInit H features e.readAt = .readerErr :=
  Proofs.tryInit_total H features e.readAt (Proofs.http_env_exact e)

theorem local_open_total (H : Bytes → Bytes) (features : List Nat) (e : IoEnv) :
    (∃ a, tryInit H features e.readAt = .ok a) ∨ (∃ w, tryInit H features e.readAt = .invalid w) ∨
      tryInit H features e.readAt = .readerErr :=
  Proofs.tryInit_total H features e.readAt (Proofs.io_env_exact e)

/-- **T2 (inspect).**  On an accepted archive the arithmetic of the `info`/`clone` banner and the
construction of the source index reach no panic branch (every rebuild index is in range, every
stored size is at least 1, offsets fit, filter bits are within 1..30); the hash length is 1..64
(`Gen.hashLengthChecked`, F20 repair) and the chunk sizes in rebuild order add up to the declared
source size (`Gen.sourceSizeSumChecked`, F18 repair). -/
theorem accepted_archive_is_safe (H : Bytes → Bytes) (features : List Nat) (read : Nat → Nat → Option Bytes)
    (a : Archive) (h : tryInit H features read = .ok a) :
    (∃ r, a.banner = .ok r) ∧ (∃ cs, a.sourceChunks = some cs) ∧ (∃ ix, a.sourceIndex = some ix) ∧
    configAccepted a.config = true ∧ (∀ i ∈ a.sourceOrder, i < a.chunks.length) ∧
    (∀ d ∈ a.chunks, 1 ≤ d.archiveSize ∧ d.archiveOffset + d.archiveSize ≤ usizeMax ∧ d.checksum.length ≤ 64) ∧
    (1 ≤ a.hashLength ∧ a.hashLength ≤ 64) ∧
    (a.sourceOrder.map fun i => ((a.chunks[i]?).map (·.sourceSize)).getD 0).sum = a.sourceTotalSize :=
  have ⟨hbanner, hchunks, hindex⟩ := Proofs.accepted_banner_safe h
  have ⟨hcfg, hord, hdescr, _, hhash, hsum⟩ := Proofs.tryInit_ok_facts h
  ⟨hbanner, hchunks, hindex, hcfg, hord, hdescr, hhash, hsum⟩

/-- **T2 (chunk ranges).**  Every `ChunkOffset::end()` - and hence every adjacent-run sum
`offset + size` - the readers compute for a descriptor of an accepted archive fits 64 bits
(`a.chunks` holds the absolute offsets `chunk_data_offset + archive_offset`): no overflow of the
range arithmetic in the local or the HTTP chunk reader.  This holds because the end-offset check
is in the source (`Gen.chunkEndOffsetChecked`, read on every run; F12 repair). -/
theorem accepted_archive_ranges_fit_u64 (H : Bytes → Bytes) (features : List Nat)
    (read : Nat → Nat → Option Bytes) (a : Archive) (h : tryInit H features read = .ok a) :
    ∀ d ∈ a.chunks, (ChunkOffset.mk d.archiveOffset d.archiveSize).stop ≤ usizeMax :=
  fun d hd => ((accepted_archive_is_safe H features read a h).2.2.2.2.2.1 d hd).2.1

/-- **T2 (bounded work).**  Scanning any input with valid chunker parameters emits chunks of at
least one byte each that tile the input: at most `|input|` chunks, whatever the read delivery. -/
theorem scan_is_bounded (cfg : Config) (hv : cfg.Valid) (data : Bytes) (script : List Rd)
    (hc : Complete script data.length = true) :
    Tiles (chunkStream cfg data script) 0 data.length := by
  rw [Proofs.stream_independent_of_delivery cfg hv data script hc, Proofs.chunkAll_eq_specChunks cfg hv]
  exact Proofs.specChunks_tile cfg hv data

/-- **T2 (bounded work, at the archive boundary).**  The chunker parameters the reader accepts are
exactly the valid ones (`Config.Valid` *is* `configAccepted`: RollSum with a window larger than the
maximum chunk size included), so scanning a seed with the parameters of *any* archive that opened
is bounded as above. -/
theorem accepted_iff_valid (c : Config) : configAccepted c = true ↔ c.Valid :=
  Proofs.configAccepted_iff_valid c

theorem accepted_archive_scan_is_bounded (H : Bytes → Bytes) (features : List Nat)
    (read : Nat → Nat → Option Bytes) (a : Archive) (h : tryInit H features read = .ok a)
    (data : Bytes) (script : List Rd) (hc : Complete script data.length = true) :
    Tiles (chunkStream a.config data script) 0 data.length :=
  scan_is_bounded a.config
    ((accepted_iff_valid a.config).1 (Proofs.tryInit_ok_facts h).1) data script hc

/-- **T2 (bounded allocation, local header read).**  Whatever size an unverified pre-header declares
and however the reads come in, every capacity `IoReader::read_at` asks the allocator for is at
most the bytes the file has actually delivered plus `MAX_PREALLOCATE` (1 MiB), and never more than
`size`.  The bound holds because both `min(.., MAX_PREALLOCATE)` guards are in the source
(`Gen.ioInitialCapacityBounded`, `Gen.ioGrowBounded`, read on every run; F8.k12 repair). -/
theorem local_header_read_allocation_bounded (file : Bytes) (offset size : Nat) (script : List ReadEv) :
    ∀ e ∈ ioReadAtCaps file offset size script,
      e.1 ≤ e.2 + Gen.ioMaxPreallocate ∧ e.2 ≤ file.length - offset ∧ e.1 ≤ size := by
  intro e he
  have hinit := Proofs.ioCapInit_le size
  -- the initial capacity, then what the loop asks for from `len = 0` on
  rcases List.mem_cons.1 he with h | h
  · rw [h]; exact ⟨Nat.le_add_left_of_le hinit.2, Nat.zero_le _, hinit.1⟩
  · exact Proofs.ioCapsLoop_asked file offset size _
      (fun len hl => (Proofs.ioCapGrow_le size len hl).2) script 0 _ (Nat.zero_le _) e h

/-- **T2 (bounded buffering, remote header read).**  Whatever the server sends for a header read of
`size` bytes - any number of body frames of any sizes, an endless body - `single_fail` buffers at
most `size` plus one frame (the stop condition `>=` is read from the source; F10 repair). -/
theorem remote_header_read_buffering_bounded (size : Nat) (frames : List Nat) :
    httpSingleTake size 0 frames ≤ size + Proofs.maxFrame frames :=
  Proofs.httpSingleTake_bounded size frames 0 (Nat.zero_le _)

/-- **T2 (bounded memory per chunk).**  The decompressor of the code never hands on more than the size
declared for the chunk, for *any* codec behaviour (`Gen.decompressOutputLimited`: the output limit
is in the source, F11 repair), and a decoded chunk of any - untrusted - descriptor is no longer
than the larger of its declared source size and the stored bytes: a compressed stream cannot
choose how much memory the reader uses. -/
theorem decoded_chunk_follows_declared_sizes (H : Bytes → Bytes) (raw : Nat → Bytes → Option Bytes)
    (compr : Compr) (d : Descr) (stored chunk : Bytes)
    (h : decodeChunk H (limitedDecomp raw) compr d stored = some chunk) :
    chunk.length ≤ max d.sourceSize stored.length :=
  Proofs.decodeChunk_bounded H (limitedDecomp raw) (Proofs.limitedDecomp_bounded raw) compr d stored chunk h

/-- **T2 (a decoded chunk is exactly as large as declared).**  For any - untrusted - descriptor, any
stored bytes and any codec: a chunk that `decodeChunk` hands on to the output has exactly the
declared source size (`Gen.chunkLengthChecked`: the length test is in the source, F19 repair), so
what a clone writes at a chunk's source offsets is as long as the index says. -/
theorem decoded_chunk_has_declared_size (H : Bytes → Bytes) (raw : Nat → Bytes → Option Bytes)
    (compr : Compr) (d : Descr) (stored chunk : Bytes)
    (h : decodeChunk H (limitedDecomp raw) compr d stored = some chunk) :
    chunk.length = d.sourceSize :=
  (Proofs.decodeChunk_some_inv H (limitedDecomp raw) compr d stored chunk h).1

/-- **T3 (64-bit arithmetic).**  For any server behaviour, every range request the HTTP chunk reader
issues ends exactly at the end of one of the listed chunks and starts at or after the start of one
of them; with `accepted_archive_ranges_fit_u64` every `offset + size` it forms for an accepted
archive therefore fits 64 bits: the model's arithmetic in `Nat` is the code's arithmetic in `u64`. -/
theorem remote_reader_sums_are_chunk_ends (serve : Nat → Nat → Bytes) (retry : Nat) (script : List Resp)
    (chunks : List ChunkOffset) (hsize : ∀ c ∈ chunks, 1 ≤ c.size) :
    ∀ q ∈ (httpReadChunks serve retry script chunks).reqs,
      (∃ c ∈ chunks, q.1 + q.2 = c.stop) ∧ (∃ c ∈ chunks, c.offset ≤ q.1) ∧ 1 ≤ q.2 :=
  (Proofs.httpReadChunks_any (serve' := serve) hsize (fun _ _ _ => rfl) script).2.2

/-- **T3.**  For *any* server behaviour (any bytes of any length for any range: surplus bytes,
empty bodies, error pages), any failure script, any retry budget, and chunks of stored size ≥ 1
(enforced at open), the HTTP chunk reader's stream contains no panic item - no underflow of the
request size, of the adjacent-run counter or of `offset + size - 1`. -/
theorem server_bytes_safe (serve : Nat → Nat → Bytes) (retry : Nat) (script : List Resp)
    (chunks : List ChunkOffset) (hsize : ∀ c ∈ chunks, 1 ≤ c.size) :
    Item.panic ∉ (httpReadChunks serve retry script chunks).items :=
  (Proofs.httpReadChunks_any (serve' := serve) hsize (fun _ _ _ => rfl) script).2.1

theorem server_bytes_safe_single (serve : Nat → Nat → Bytes) (retry offset size : Nat) (script : List Resp)
    (hsize : 1 ≤ size) :
    (httpReadAt serve retry offset size script).1 ≠ Item.panic :=
  (Proofs.httpReadAt_spec serve offset size script retry).1 (by omega)

/-! Non-vacuity / regression witnesses: headers whose checksum is valid but whose dictionary is
inconsistent are reported as invalid (each of these panicked before the F8 repairs). -/
def toyH (x : Bytes) : Bytes := (x ++ List.replicate 64 0).take 64

def openDict (d : Proto.ChunkDictionary) : Bool :=
  match tryInit toyH [] (honestReadAt (buildHeader toyH d none)) with
  | .invalid _ => true
  | _ => false

example :
    -- rebuild index out of range; fixed size 0; window 0; filter bits 0 and 31; min > max; stored size 0;
    -- start of the chunk fits 64 bits (header 132 + offset = 2^64 - 3) but its end does not (F12);
    -- hash length 0 and 65 (F20); declared source size 4, the chunks add up to 3 (F18)
    openDict { chunkerParams := some ⟨5, 1, 9, 3, 8, 1⟩, chunkCompression := some ⟨0, 0⟩, rebuildOrder := [1],
               chunkDescriptors := [⟨[1,2,3,4,5,6,7,8], 3, 0, 3⟩] } = true ∧
    openDict { chunkerParams := some ⟨0, 0, 0, 0, 8, 2⟩, chunkCompression := some ⟨0, 0⟩ } = true ∧
    openDict { chunkerParams := some ⟨5, 1, 9, 0, 8, 0⟩, chunkCompression := some ⟨0, 0⟩ } = true ∧
    openDict { chunkerParams := some ⟨0, 1, 9, 3, 8, 1⟩, chunkCompression := some ⟨0, 0⟩ } = true ∧
    openDict { chunkerParams := some ⟨31, 1, 9, 3, 8, 1⟩, chunkCompression := some ⟨0, 0⟩ } = true ∧
    openDict { chunkerParams := some ⟨5, 10, 9, 3, 8, 1⟩, chunkCompression := some ⟨0, 0⟩ } = true ∧
    openDict { chunkerParams := some ⟨5, 1, 9, 3, 8, 1⟩, chunkCompression := some ⟨0, 0⟩, rebuildOrder := [0],
               chunkDescriptors := [⟨[1,2,3,4,5,6,7,8], 0, 0, 3⟩] } = true ∧
    openDict { chunkerParams := some ⟨5, 1, 9, 3, 8, 1⟩, chunkCompression := some ⟨0, 0⟩, rebuildOrder := [0],
               chunkDescriptors := [⟨[1,2,3,4,5,6,7,8], 100, 2 ^ 64 - 135, 3⟩] } = true ∧
    openDict { chunkerParams := some ⟨5, 1, 9, 3, 0, 1⟩, chunkCompression := some ⟨0, 0⟩ } = true ∧
    openDict { chunkerParams := some ⟨5, 1, 9, 3, 65, 1⟩, chunkCompression := some ⟨0, 0⟩ } = true ∧
    openDict { sourceTotalSize := 4, chunkerParams := some ⟨5, 1, 9, 3, 8, 1⟩, chunkCompression := some ⟨0, 0⟩,
               rebuildOrder := [0], chunkDescriptors := [⟨[1,2,3,4,5,6,7,8], 3, 0, 3⟩] } = true := by
  decide +kernel

/-- the two new checks are sharp: hash lengths 1 and 64 open, and so does the last dictionary above
once it declares the 3 bytes its chunks add up to -/
example :
    openDict { chunkerParams := some ⟨5, 1, 9, 3, 1, 1⟩, chunkCompression := some ⟨0, 0⟩ } = false ∧
    openDict { chunkerParams := some ⟨5, 1, 9, 3, 64, 1⟩, chunkCompression := some ⟨0, 0⟩ } = false ∧
    (match tryInit toyH [] (honestReadAt (buildHeader toyH
        { sourceTotalSize := 3, chunkerParams := some ⟨5, 1, 9, 3, 8, 1⟩, chunkCompression := some ⟨0, 0⟩,
          rebuildOrder := [0], chunkDescriptors := [⟨[1,2,3,4,5,6,7,8], 3, 0, 3⟩] } none)) with
      | .ok a => a.sourceTotalSize == 3 && a.hashLength == 8
      | _ => false) = true := by
  decide +kernel

/-- the end-offset check is sharp: that header (which now also declares the 3 source bytes of its
chunk, as the reader demands since the F18 repair) is 134 bytes long; with a stored size of 2 the
chunk ends exactly at `usizeMax` and the archive opens, with a stored size of 3 it is refused -/
example :
    (buildHeader toyH
        { sourceTotalSize := 3, chunkerParams := some ⟨5, 1, 9, 3, 8, 1⟩, chunkCompression := some ⟨0, 0⟩,
          rebuildOrder := [0], chunkDescriptors := [⟨[1,2,3,4,5,6,7,8], 2, 2 ^ 64 - 137, 3⟩] } none).length = 134 ∧
    (match tryInit toyH [] (honestReadAt (buildHeader toyH
        { sourceTotalSize := 3, chunkerParams := some ⟨5, 1, 9, 3, 8, 1⟩, chunkCompression := some ⟨0, 0⟩,
          rebuildOrder := [0], chunkDescriptors := [⟨[1,2,3,4,5,6,7,8], 2, 2 ^ 64 - 137, 3⟩] } none)) with
      | .ok a => a.chunks.map (fun d => (ChunkOffset.mk d.archiveOffset d.archiveSize).stop) == [usizeMax]
      | _ => false) = true ∧
    openDict { sourceTotalSize := 3, chunkerParams := some ⟨5, 1, 9, 3, 8, 1⟩, chunkCompression := some ⟨0, 0⟩,
               rebuildOrder := [0], chunkDescriptors := [⟨[1,2,3,4,5,6,7,8], 3, 2 ^ 64 - 137, 3⟩] } = true := by
  decide +kernel

/-- a RollSum window larger than the maximum chunk size is accepted, and valid -/
example : configAccepted (.rollsum ⟨2, 0, 3, 8⟩) = true ∧ (Config.rollsum ⟨2, 0, 3, 8⟩).Valid ∧
    configAccepted (.buzhash ⟨2, 0, 3, 8⟩) = false := by decide +kernel

/-- a 100-byte file whose pre-header declares 2^62 bytes: the capacities asked for stay at 1 MiB
beyond the delivered bytes; an endless body of 16381-byte frames for a 14-byte read: one frame is
taken -/
example :
    ioReadAtCaps (List.replicate 100 7) 14 (2 ^ 62) [.bytes 60, .bytes 60, .bytes 60] =
      [(1048576, 0)] ∧
    httpSingleTake 14 0 (List.replicate 1000 16381) = 16381 ∧
    -- a "codec" that expands 3 stored bytes to 5000: refused when 100 are declared, passed when 5000 are
    limitedDecomp (fun _ _ => some (List.replicate 5000 0)) 3 [1, 2, 3] 100 = none ∧
    (limitedDecomp (fun _ _ => some (List.replicate 5000 0)) 3 [1, 2, 3] 5000).isSome = true := by
  decide +kernel

/-- **Resource clause for the seed scan's chunker.**  The chunker built from the parameters of any
archive that opened asks the allocator for the stream buffer (1 MiB) and for the rolling-hash
window: for BuzHash four bytes per window entry, and the reader accepts a BuzHash window only up to
the declared maximum chunk size - so at most four times the chunk size the format declares; for
RollSum one byte per entry of the declared window (a 32-bit field).  (This is the exact form of the
"16 GiB for a 4 GiB window" observation of DESIGN.md section 6: bounded by what is declared, times 4.) -/
theorem accepted_archive_chunker_allocation_bounded (H : Bytes → Bytes) (features : List Nat)
    (read : Nat → Nat → Option Bytes) (a : Archive) (h : tryInit H features read = .ok a) :
    ∀ n ∈ chunkerAllocations a.config,
      match a.config with
      | .buzhash f => n ≤ max (4 * f.maxSize) Gen.refillSize
      | .rollsum f => n ≤ max f.window Gen.refillSize
      | .fixed _ => n ≤ Gen.refillSize := by
  have hacc := (Proofs.tryInit_ok_facts h).1
  generalize a.config = cfg at hacc
  cases cfg with
  | buzhash f =>
    -- the reader accepts a BuzHash window only up to the maximum chunk size
    have hw : f.window ≤ f.maxSize := (of_decide_eq_true hacc).2.1
    exact List.forall_mem_cons.2 ⟨Nat.le_trans (Nat.mul_le_mul_left 4 hw) (Nat.le_max_left _ _),
      List.forall_mem_cons.2 ⟨Nat.le_trans (by decide : 4 * 256 ≤ Gen.refillSize) (Nat.le_max_right _ _),
        List.forall_mem_singleton.2 (Nat.le_max_right _ _)⟩⟩
  | rollsum f =>
    exact List.forall_mem_cons.2 ⟨Nat.le_max_left _ _, List.forall_mem_singleton.2 (Nat.le_max_right _ _)⟩
  | fixed m => exact List.forall_mem_singleton.2 (Nat.le_refl _)

/-- **Resource clause for the seed scan's buffer.**  Scanning any data (a seed, the prior output) with
the chunker parameters of any archive that opened: the chunker asks for more data only while less
than one maximum-size chunk is buffered, so every capacity the streaming chunker's buffer is grown to
is below `2 * (declared maximum chunk size + REFILL_SIZE)` - whatever the data, its length and the
amounts the reads deliver.  (`BytesMut::reserve`'s amortised growth is a modelled dependency; the
in-process allocation probe of `l1 fmt` judges the same bound on the real scan.) -/
theorem accepted_archive_scan_buffer_bounded (H : Bytes → Bytes) (features : List Nat)
    (read : Nat → Nat → Option Bytes) (a : Archive) (h : tryInit H features read = .ok a)
    (data : Bytes) (script : List Rd) :
    ∀ e ∈ SC.caps ⟨0, data, 0, Chunker.ofConfig a.config⟩ Gen.refillSize script,
      e.1 < 2 * (Proofs.WriterDescr.maxChunk a.config + Gen.refillSize) ∧ e.2 ≤ e.1 :=
  Proofs.scan_capacity_bounded a.config
    ((Proofs.configAccepted_iff_valid a.config).1 (Proofs.tryInit_ok_facts h).1) data script

/-- ... for every valid configuration, and the step it rests on: `Chunker::next` answers "need more
data" only on a buffer shorter than the maximum chunk size. -/
theorem scan_buffer_bounded (cfg : Config) (hv : cfg.Valid) (data : Bytes) (script : List Rd) :
    ∀ e ∈ SC.caps ⟨0, data, 0, Chunker.ofConfig cfg⟩ Gen.refillSize script,
      e.1 < 2 * (Proofs.WriterDescr.maxChunk cfg + Gen.refillSize) ∧ e.2 ≤ e.1 :=
  Proofs.scan_capacity_bounded cfg hv data script

theorem chunker_wants_data_only_below_max (c : Chunker) (rest : Bytes) (n : Nat) (c' : Chunker)
    (hi : Proofs.CS.CInv c n) (hl : n ≤ rest.length) (hn : c.next rest n = (c', none)) :
    n < Proofs.chunkerMax c :=
  (Proofs.CS.next_grow hi hl hn).2.2.1

-- non-vacuity: a scan whose buffer is grown once (20 bytes in fixed-size chunks of 5, reads of 9: after the
-- first chunk 4 bytes are left and fewer than REFILL_SIZE are spare, so the capacity doubles), within the bound
example : SC.caps ⟨0, List.replicate 20 0, 0, Chunker.ofConfig (.fixed 5)⟩ Gen.refillSize
    [.bytes 9, .bytes 9, .bytes 9, .bytes 9] = [(1048576, 9), (2097152, 13), (2097152, 5)] := by
  decide +kernel

/-- **Decompression memory (F11) as a theorem about the sink.**  Every decompressor writes into
`LimitedOutput` (model `Sink`, tied through the hook `bitar::verif_limited_output` by `l1 fmt`): whatever
sequence of writes it makes - the codecs are not modelled, so: *any* - the buffer never holds more than
the size declared for the chunk; the run ends in exactly the bytes written if they fit, and in an error
at the first write that would not.  The whole-output model the clone theorems use (`limitedDecomp`)
is that sink run on any way of cutting the codec's output into writes. -/
theorem decompression_buffer_never_exceeds_declared_size (declared : Nat) (writes : List Bytes) :
    ∀ n ∈ Sink.states declared writes, n ≤ declared :=
  Proofs.sink_states_le declared writes

theorem decompression_exact_or_error (declared : Nat) (writes : List Bytes) (out : Bytes) :
    Sink.run declared writes = .ok out ↔ (writes.flatten.length ≤ declared ∧ out = writes.flatten) :=
  Proofs.sink_run_ok_iff declared writes out

theorem limited_decomp_is_the_sink (raw : Nat → Bytes → Option Bytes) (algo : Nat) (stored : Bytes) (declared : Nat)
    (out : Bytes) (hraw : raw algo stored = some out) (writes : List Bytes) (hp : writes.flatten = out) :
    limitedDecomp raw algo stored declared = (match Sink.run declared writes with
      | .ok b => some b
      | .error _ => none) := by
  rw [Proofs.limitedDecomp_of_raw declared hraw, ← hp, Sink.run]
  rcases Proofs.sink_runFrom writes ⟨[], declared⟩ 0 declared rfl with ⟨hfit, hr⟩ | ⟨hover, _, _, _, _, hr⟩
  · rw [hr, if_neg (Nat.not_lt.2 hfit)]; rfl
  · rw [hr, if_pos hover]

example : Sink.run 5 [[1, 2], [3], [4, 5]] = .ok [1, 2, 3, 4, 5] := rfl
example : Sink.run 5 [[1, 2], [3, 4, 5, 6], [7]] = .error 1 := rfl
example : Sink.states 5 [[1, 2], [3, 4, 5, 6], [7]] = [2] := by decide +kernel

/-- **Dictionary decoding does bounded work on any bytes.**  prost's reader of the (untrusted)
dictionary is modelled with an explicit fuel; these two theorems say the fuel is not what bounds it:
every field read consumes at least its key byte - so a dictionary of `n` bytes is at most `n` fields,
at every nesting level - and an unknown group (wire type 3, nested up to prost's recursion limit) is
left strictly behind, for any bytes whatever. -/
theorem dictionary_fields_bounded_by_bytes (forceLen : List Nat) (fuel : Nat) (b : Bytes)
    (fs : List (Nat × Option Proto.WireVal)) (h : Proto.parseMessage forceLen fuel b = some fs) :
    fs.length ≤ b.length :=
  Proofs.parseMessage_field_count forceLen fuel b fs h

theorem unknown_group_skip_progresses (fuel depth gtag : Nat) (b r : Bytes)
    (h : Proto.skipGroup fuel depth gtag b = some r) : r.length < b.length :=
  Proofs.skipGroup_shorter h

/-- The fuel the model passes (`length + 1`) is never the reason a dictionary is refused: any larger
fuel gives the same answer, for the top-level message (with its map field) and for skipped groups. -/
theorem dictionary_decode_fuel_irrelevant (b : Bytes) (f : Nat) (hf : b.length < f) :
    Proto.decodeDictionary b =
      (Proto.parseMessage [Gen.tag_ChunkDictionary_metadata] f b).bind fun fs => Proto.mergeDictionary fs {} :=
  Proofs.decodeDictionary_any_fuel b f hf

theorem unknown_group_skip_fuel_irrelevant (f1 f2 depth gtag : Nat) (b : Bytes)
    (h1 : b.length < f1) (h2 : b.length < f2) :
    Proto.skipGroup f1 depth gtag b = Proto.skipGroup f2 depth gtag b :=
  Proofs.skipGroup_fuel f1 f2 depth gtag b h1 h2

example : Proto.parse [0x4b, 0x53, 0x54, 0x08, 0x01, 0x4c, 0x10, 0x05] =
    some [(9, none), (2, some (.varint 5))] := by decide +kernel
/-- a group nested deeper than prost's limit is refused, not followed -/
example : Proto.skipGroup 9 2 9 [0x53, 0x5b, 0x5c, 0x54, 0x4c] = none := by decide +kernel
example : Proto.skipGroup 9 3 9 [0x53, 0x5b, 0x5c, 0x54, 0x4c] = some [] := by decide +kernel
/-- `skip_field` checks the limit for every inner field, not only for inner groups -/
example : Proto.skipGroup 9 1 9 [0x08, 0x01, 0x4c] = none := by decide +kernel
example : Proto.skipGroup 9 2 9 [0x08, 0x01, 0x4c] = some [] := by decide +kernel

end Bita.Props.C15
