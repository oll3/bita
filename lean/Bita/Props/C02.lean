/-
  C02 — seeds never change what a clone produces.
-/
import Bita.Proofs.CloneNoJunk
import Bita.Proofs.InPlace
import Bita.Proofs.StepOrder
import Bita.Proofs.Options

namespace Bita.Props.C02
open Bita Bita.Spec

/-- **C02.**  The archive opens to `a`, which describes `src`.  For *every* list of seed streams -
any number, any order, any content (unrelated data, the source itself, edited copies, streams
whose chunks collide in size, empty streams) -, every prior output, in-place or not, local or
remote reader: a clone that reports success has produced exactly the source - the only escape
is a collision of the truncated strong hash with a genuine source chunk; colliding junk chunks
in the prior output are irrelevant (`Proofs.Planner.reorderOps_keep`).  Seeds only influence what is
fetched (`Props.C06`). -/
theorem seeds_irrelevant (H : Bytes → Bytes) (hH : ∀ x, (H x).length = 64)
    (decomp : Nat → Bytes → Nat → Option Bytes) (features : List Nat)
    (readAt : Nat → Nat → Option Bytes) (readChunks : List (Nat × Nat) → List (Option Bytes))
    (opts : CloneOpts) (prior : Bytes) (seeds : List Bytes)
    (a : Archive) (src : Bytes) (cks : List Bytes)
    (hinit : tryInit H features readAt = .ok a) (hd : Describes H a src cks)
    (hitems : ∀ ranges, (readChunks ranges).length = ranges.length) :
    let r := Clone.run H decomp features readAt readChunks opts prior seeds
    r.result = .ok →
      (setLen r.output src.length = src ∧ (opts.blockDev = false → r.output = src)) ∨
      Collision H a.hashLength cks :=
  Proofs.clone_sound_nojunk H hH decomp features readAt readChunks opts prior seeds a src cks hinit hd hitems

/-- The engine, at the level of keyed chunks: whatever the output held before, feeding *any*
sequence of chunks that contains every source chunk and resizing yields the source. -/
theorem feeds_exact {κ : Type} [DecidableEq κ] (content : κ → Bytes) (N : List κ) (p : Bytes)
    (hne : ∀ k, k ∈ N → content k ≠ []) (ks : List κ) (hall : ∀ k ∈ N, k ∈ ks) :
    resize (feedAll content ⟨p, indexOf content N, []⟩ ks).file (fileOf content N).length
      = fileOf content N :=
  Proofs.clone_exact content N p hne ks hall

/-! Non-vacuity: a tiny archive with a toy 64-byte hash, cloned with an unrelated seed, a seed
equal to the source and an empty seed, into a non-empty prior output. -/
def toyH (x : Bytes) : Bytes := (x ++ List.replicate 64 0).take 64

example :
    let src : Bytes := [1, 2, 3, 4, 5, 6, 7]
    let archive := createArchive toyH "lib" id ⟨.fixed 3, 8, none, []⟩ src
    (Clone.run toyH (fun _ b _ => some b) [] (honestReadAt archive) (honestReadChunks archive)
      {} [9, 9] [[7, 7, 7, 7], src, []]).result = .ok ∧
    (Clone.run toyH (fun _ b _ => some b) [] (honestReadAt archive) (honestReadChunks archive)
      {} [9, 9] [[7, 7, 7, 7], src, []]).output = src := by
  decide +kernel

/-- The step order of `clone_archive` that `Clone.run` transcribes (scan the output and reorder in
place *before* any seed is used, fetch last, flush before resize), read from the source on every
run: a reordering of the steps in the code breaks this theorem. -/
theorem clone_steps_as_modelled :
    Gen.cloneStepOrder = ["try_init", "banner", "pin", "open_output", "device_check", "scan_output", "reorder",
                          "seed_stdin", "seed_files", "fetch", "flush", "resize", "verify_output"] :=
  Proofs.clone_step_order_fact


/-- **"Seed files and stdin, in any number and order", from the command line.**  What `clone_cmd`
is handed for any accepted `bita clone` command line: every `--seed` value other than `-` is a seed
file, in the order given (repeats and the output's own name included, nothing added or dropped),
stdin is a seed iff `-` is among them, and in-place mode is on iff `--seed-output` was given. -/
theorem cli_seeds_as_given (a : Options.CloneArgs) (p : Options.CloneParsed)
    (hp : Options.parseClone a = .ok p) :
    p.cmd.seedPaths = a.seeds.filter (· ≠ "-") ∧ p.seedStdin = a.seeds.contains "-" ∧
    p.cmd.flags.seedOutput = a.seedOutput := by
  obtain ⟨_, _, hfl, hs, hst, _⟩ := Proofs.parseClone_ok a p hp
  exact ⟨hs, hst, by rw [hfl]⟩

end Bita.Props.C02
