/-
  C03 — in-place update is exact for every prior content of the output.

  Level of statement: tilings.  The prior output is a sequence `O` of chunks and the source a
  sequence `N`, each chunk identified by a key `κ` with bytes `content k` (keys are what the
  truncated strong hash identifies; that equal keys mean equal bytes is the collision-freeness
  the property's "or a collision is exhibited" refers to).  That scanning any byte string yields
  such a tiling is C09 (`chunks_tile`).
-/
import Bita.Proofs.InPlace
import Bita.Proofs.CloneNoJunk
import Bita.Proofs.StepOrder

namespace Bita.Props.C03
open Bita Bita.Spec

/-- **C03 at the level of bytes** (the whole clone, `Clone.run` with `--seed-output`).  The header
that was opened describes `src`; the prior content of the output is *any* byte string - any
length, any arrangement, duplication or partial presence of reusable chunks, junk whose chunks
collide with each other -; seeds, reader and codec are arbitrary.  A clone that reports success
has left exactly the source (a regular file also has exactly the source's length), or a
collision of the truncated strong hash with a genuine source chunk is exhibited. -/
theorem inplace_clone_exact (H : Bytes → Bytes) (hH : ∀ x, (H x).length = 64)
    (decomp : Nat → Bytes → Nat → Option Bytes) (features : List Nat)
    (readAt : Nat → Nat → Option Bytes) (readChunks : List (Nat × Nat) → List (Option Bytes))
    (opts : CloneOpts) (_hso : opts.seedOutput = true) (prior : Bytes) (seeds : List Bytes)
    (a : Archive) (src : Bytes) (cks : List Bytes)
    (hinit : tryInit H features readAt = .ok a) (hd : Describes H a src cks)
    (hitems : ∀ ranges, (readChunks ranges).length = ranges.length) :
    let r := Clone.run H decomp features readAt readChunks opts prior seeds
    r.result = .ok →
      (setLen r.output src.length = src ∧ (opts.blockDev = false → r.output = src)) ∨
      Collision H a.hashLength cks :=
  Proofs.clone_sound_nojunk H hH decomp features readAt readChunks opts prior seeds a src cks hinit hd hitems

/-- ... and with an honest reader over archive bytes that store the chunks it does report
success, for every prior content. -/
theorem inplace_clone_succeeds (H : Bytes → Bytes) (hH : ∀ x, (H x).length = 64)
    (decomp : Nat → Bytes → Nat → Option Bytes) (features : List Nat)
    (archive : Bytes) (opts : CloneOpts) (_hso : opts.seedOutput = true) (prior : Bytes) (seeds : List Bytes)
    (a : Archive) (src : Bytes) (cks : List Bytes)
    (hinit : tryInit H features (honestReadAt archive) = .ok a) (hd : Describes H a src cks)
    (hs : Stored H decomp a archive)
    (hpin : ∀ pin, opts.headerPin = some pin → pin = a.headerChecksum)
    (hdev : opts.blockDev = true → src.length ≤ prior.length) :
    let r := Clone.run H decomp features (honestReadAt archive) (honestReadChunks archive) opts prior seeds
    (r.result = .ok ∧ setLen r.output src.length = src ∧ (opts.blockDev = false → r.output = src)) ∨
      Collision H a.hashLength cks :=
  Proofs.clone_complete_nojunk H hH decomp features archive opts prior seeds a src cks hinit hd hs hpin hdev

variable {κ : Type} [DecidableEq κ]

/-- **The planner is sound**: for every prior tiling and every target tiling - any lengths, any
arrangement, duplication or partial presence of chunks, any overlaps and cyclic move
dependencies - `reorder_ops` (after `strip_chunks_already_in_place`) is a safe plan: each
reusable chunk is copied exactly once from its first location to exactly its missing target
offsets, and no copy overwrites a still-needed chunk that has not been copied or buffered. -/
theorem planner_sound (content : κ → Bytes) (O N : List κ)
    (hne : ∀ k, k ∈ O ∨ k ∈ N → content k ≠ []) :
    safePlan content O N
      (reorderOps (indexOf content O) ((indexOf content O).strip (indexOf content N)).1) = true :=
  Proofs.planner_sound content O N hne

/-- **The executor is sound** for every safe plan. -/
theorem executor_sound (content : κ → Bytes) (O N : List κ)
    (hne : ∀ k, k ∈ O ∨ k ∈ N → content k ≠ [])
    (ops : List (ROp κ)) (hs : safePlan content O N ops = true) :
    let PO := placements content O 0
    let PN := placements content N 0
    let target := ((indexOf content O).strip (indexOf content N)).1
    ∃ fin, ExecSt.run ⟨⟨fileOf content O, target, []⟩, [], 0⟩ ops = some fin ∧
      fin.out.index = (indexOf content N).filter (fun e => !O.contains e.1) ∧
      (∀ e ∈ PN, e.1 ∈ O → slice fin.out.file e.2 (content e.1).length = content e.1) ∧
      (fileOf content O).length ≤ fin.out.file.length ∧
      writesOf fin.out.log =
        ((ops.filter isCopy).map opKey).flatMap (fun k => (dests PO PN k).map (fun d => (d, content k))) :=
  Proofs.executor_sound content O N hne ops hs

/-- **C03.**  For every prior content (as a tiling) and every source: the in-place reorder
succeeds, only chunks absent from the prior output remain to be fetched, and after they have
been fed (in any order, among any other chunks) and the file resized, the output is
byte-identical to the source. -/
theorem inplace_exact (content : κ → Bytes) (O N : List κ)
    (hne : ∀ k, k ∈ O ∨ k ∈ N → content k ≠ []) :
    ∃ st1 ret, (OutSt.mk (fileOf content O) (indexOf content N) []).reorderInPlace (indexOf content O)
        = some (st1, ret) ∧
      (∀ k, k ∈ st1.index.keys ↔ (k ∈ N ∧ k ∉ O)) ∧
      ∀ ks, (∀ k ∈ st1.index.keys, k ∈ ks) →
        resize (feedAll content st1 ks).file (fileOf content N).length = fileOf content N :=
  Proofs.inplace_exact content O N hne

/-! Non-vacuity: a 2-cycle (swap), a 3-cycle with unequal sizes, and a duplicated source with an
overlapping move; each is a safe plan containing a `StoreInMem` and the executed result is the
source. -/
def content3 : Nat → Bytes := fun k => List.replicate (k % 3 + 1) (UInt8.ofNat (k + 65))

example :
    let O := [0, 1]; let N := [1, 0]
    let ops := reorderOps (indexOf content3 O) ((indexOf content3 O).strip (indexOf content3 N)).1
    safePlan content3 O N ops = true ∧ (ops.any fun o => !isCopy o) = true ∧
    (((OutSt.mk (fileOf content3 O) (indexOf content3 N) []).reorderInPlace (indexOf content3 O)).map
      (fun r => resize r.1.file (fileOf content3 N).length)) = some (fileOf content3 N) := by
  decide +kernel

example :
    let O := [0, 1, 2, 7]; let N := [2, 0, 1, 2]
    let ops := reorderOps (indexOf content3 O) ((indexOf content3 O).strip (indexOf content3 N)).1
    safePlan content3 O N ops = true ∧ (ops.any fun o => !isCopy o) = true ∧
    (((OutSt.mk (fileOf content3 O) (indexOf content3 N) []).reorderInPlace (indexOf content3 O)).map
      (fun r => resize r.1.file (fileOf content3 N).length)) = some (fileOf content3 N) := by
  decide +kernel

/-- The step order of `clone_archive` that `Clone.run` transcribes (scan the output and reorder in
place *before* any seed is used, fetch last, flush before resize), read from the source on every
run: a reordering of the steps in the code breaks this theorem. -/
theorem clone_steps_as_modelled :
    Gen.cloneStepOrder = ["try_init", "banner", "pin", "open_output", "device_check", "scan_output", "reorder",
                          "seed_stdin", "seed_files", "fetch", "flush", "resize", "verify_output"] :=
  Proofs.clone_step_order_fact

end Bita.Props.C03
