/-
  C04 — corrupted or tampered data never yields a successful wrong clone.
-/
import Bita.Proofs.CloneSound
import Bita.Proofs.CloneNoJunk
import Bita.Proofs.TryInit
import Bita.Proofs.ReaderEnv
import Bita.Proofs.StepOrder
import Bita.Proofs.OptionsCompose

namespace Bita.Props.C04
open Bita Bita.Spec

/-- **C04 T1 (payload / server).**  The header that was opened is genuine (it describes `src`);
the chunk reader may return *arbitrary* bytes for every chunk request - any bit flips,
truncations, swapped payloads, trailing garbage, error pages of the right length, short bodies
(an error item) -, the codec may do anything, seeds and prior output are arbitrary.  Then clone
either fails or produces exactly the source.  The only escape is a collision of the truncated
strong hash with a genuine source chunk; colliding junk chunks in the prior output are
irrelevant (`Proofs.Planner.reorderOps_keep`). -/
theorem clone_sound_against_any_reader (H : Bytes → Bytes) (hH : ∀ x, (H x).length = 64)
    (decomp : Nat → Bytes → Nat → Option Bytes) (features : List Nat)
    (readAt : Nat → Nat → Option Bytes) (readChunks : List (Nat × Nat) → List (Option Bytes))
    (opts : CloneOpts) (prior : Bytes) (seeds : List Bytes)
    (a : Archive) (src : Bytes) (cks : List Bytes)
    (hinit : tryInit H features readAt = .ok a) (hd : Describes H a src cks)
    (hitems : ∀ ranges, (readChunks ranges).length = ranges.length) :
    let r := Clone.run H decomp features readAt readChunks opts prior seeds
    r.result = .ok →
      (setLen r.output src.length = src ∧ (opts.blockDev = false → r.output = src)) ∨
      Collision H a.hashLength cks :=
  Proofs.clone_sound_nojunk H hH decomp features readAt readChunks opts prior seeds a src cks hinit hd hitems

/-- **T1 over HTTP.**  The same with the reader instantiated by the model of `HttpReader`: *any*
server behaviour (any bytes of any length for any range), any transport failures, any retry
budget.  A clone that reports success has produced the source, or a collision of the truncated
strong hash with a genuine source chunk is exhibited. -/
theorem clone_sound_against_any_server (H : Bytes → Bytes) (hH : ∀ x, (H x).length = 64)
    (decomp : Nat → Bytes → Nat → Option Bytes) (features : List Nat) (e : HttpEnv)
    (opts : CloneOpts) (prior : Bytes) (seeds : List Bytes)
    (a : Archive) (src : Bytes) (cks : List Bytes)
    (hinit : tryInit H features e.readAt = .ok a) (hd : Describes H a src cks) :
    let r := Clone.run H decomp features e.readAt e.readChunks opts prior seeds
    r.result = .ok →
      (setLen r.output src.length = src ∧ (opts.blockDev = false → r.output = src)) ∨
      Collision H a.hashLength cks :=
  Proofs.clone_http_sound H hH decomp features e opts prior seeds a src cks hinit hd

/-- **C04 T2 (header).**  Whatever bytes are presented, if they open, the 64 bytes found where
their own size field says the checksum lies are the strong hash of everything before them. -/
theorem opened_header_is_self_consistent (H : Bytes → Bytes) (features : List Nat) (bytes : Bytes) (a : Archive)
    (h : tryInit H features (honestReadAt bytes) = .ok a) :
    ∃ dictSize, dictSize = fromLe ((bytes.drop magicBytes.length).take 8) ∧
      a.headerSize = Gen.preHeaderSize + dictSize + 72 ∧ a.headerSize ≤ bytes.length ∧
      a.headerChecksum = (bytes.drop (Gen.preHeaderSize + dictSize + 8)).take 64 ∧
      a.headerChecksum = H (bytes.take (Gen.preHeaderSize + dictSize + 8)) :=
  Proofs.tryInit_checksum h

/-- An alteration of a genuine archive that keeps the size field and still opens has left the
whole header region unchanged - or exhibits a collision of the header hash - or has also
replaced the checksum by the hash of the altered header.  (The checksum is a hash, not a MAC:
the last case is what `--verify-header` excludes.)  In particular a change confined to the
magic, the dictionary or the offset field is rejected or is a collision, and a change confined
to the checksum field is rejected. -/
theorem header_tamper (H : Bytes → Bytes) (features : List Nat) (b b' : Bytes) (a a' : Archive)
    (h : tryInit H features (honestReadAt b) = .ok a)
    (h' : tryInit H features (honestReadAt b') = .ok a')
    (hsize : (b'.drop magicBytes.length).take 8 = (b.drop magicBytes.length).take 8) :
    b'.take a.headerSize = b.take a.headerSize ∨
    (∃ p p', p ≠ p' ∧ H p = H p') ∨
    a'.headerChecksum ≠ a.headerChecksum :=
  Proofs.header_tamper H features b b' a a' h h' hsize

/-- **C04 T3 (pin).**  With an expected header checksum, clone proceeds past the pin only if the
archive's header checksum equals it as a byte string; otherwise it fails, writes nothing and
reads nothing but the header. -/
theorem pin_mismatch_refused (H : Bytes → Bytes) (decomp : Nat → Bytes → Nat → Option Bytes) (features : List Nat)
    (readAt : Nat → Nat → Option Bytes) (readChunks : List (Nat × Nat) → List (Option Bytes))
    (opts : CloneOpts) (prior : Bytes) (seeds : List Bytes) (a : Archive) (pin : Bytes)
    (hinit : tryInit H features readAt = .ok a) (hp : opts.headerPin = some pin)
    (hne : pin ≠ a.headerChecksum) :
    let r := Clone.run H decomp features readAt readChunks opts prior seeds
    r.result ≠ .ok ∧ r.output = prior ∧ r.log = [] ∧
      ∀ q ∈ r.requests, ∃ o s, q = ArchReq.readAt o s :=
  Proofs.clone_pin H decomp features readAt readChunks opts prior seeds a pin hinit hp hne

/-- ... and an archive that opens and carries the pinned checksum has the genuine header region
(or a collision of the header hash is exhibited). -/
theorem pinned_header_is_genuine (H : Bytes → Bytes) (features : List Nat) (b b' : Bytes) (a a' : Archive)
    (h : tryInit H features (honestReadAt b) = .ok a)
    (h' : tryInit H features (honestReadAt b') = .ok a')
    (hpin : a'.headerChecksum = a.headerChecksum) (hH : ∀ x, (H x).length = 64) :
    b'.take a'.headerSize = b.take a.headerSize ∨ (∃ p p', p ≠ p' ∧ H p = H p') :=
  have _ := hH
  (Proofs.header_eq_of_checksum_eq h h' hpin).imp_left fun ⟨e1, e2⟩ => e1 ▸ e2

/-- The pin comparison in the source is on complete byte strings (F6 repair). -/
theorem pin_compares_full_bytes_fact : Gen.pinComparesFullBytes = true := by decide

/-- **C04 T4 (`--verify-output`).**  Success implies that the first `source_total_size` bytes of the
output hash to the recorded checksum.  Since the F17 repair (`Gen.verifyHashesSourceSizeOnly`)
`--verify-output` hashes the first source-size bytes only: for a regular file that is the whole
output (`verify_output_sound_file`); on a block device longer than the source the statement is about
that prefix - the rest of the device is not the clone's business (before the repair the whole device
was hashed and verification always failed there). -/
theorem verify_output_sound (H : Bytes → Bytes) (decomp : Nat → Bytes → Nat → Option Bytes)
    (features : List Nat)
    (readAt : Nat → Nat → Option Bytes) (readChunks : List (Nat × Nat) → List (Option Bytes))
    (opts : CloneOpts) (prior : Bytes) (seeds : List Bytes) (a : Archive)
    (hinit : tryInit H features readAt = .ok a) (hv : opts.verifyOutput = true) :
    let r := Clone.run H decomp features readAt readChunks opts prior seeds
    r.result = .ok →
      hashTruncate (H (r.output.take a.sourceTotalSize)) a.sourceChecksum.length = a.sourceChecksum :=
  fun hr => (Proofs.run_ok_output hinit hr).1 hv

/-- ... and when the output is a regular file (which the clone cuts to the source size), the whole
output hashes to the recorded checksum. -/
theorem verify_output_sound_file (H : Bytes → Bytes) (decomp : Nat → Bytes → Nat → Option Bytes)
    (features : List Nat)
    (readAt : Nat → Nat → Option Bytes) (readChunks : List (Nat × Nat) → List (Option Bytes))
    (opts : CloneOpts) (prior : Bytes) (seeds : List Bytes) (a : Archive)
    (hinit : tryInit H features readAt = .ok a) (hv : opts.verifyOutput = true)
    (hb : opts.blockDev = false) :
    let r := Clone.run H decomp features readAt readChunks opts prior seeds
    r.result = .ok → hashTruncate (H r.output) a.sourceChecksum.length = a.sourceChecksum := by
  intro r hr
  obtain ⟨hvo, hlen⟩ := Proofs.run_ok_output hinit hr
  rw [← List.take_of_length_le (Nat.le_of_eq (hlen hb))]
  exact hvo hv

/-- An archive that does not open leaves the output untouched. -/
theorem unopened_archive_untouched (H : Bytes → Bytes) (decomp : Nat → Bytes → Nat → Option Bytes)
    (features : List Nat)
    (readAt : Nat → Nat → Option Bytes) (readChunks : List (Nat × Nat) → List (Option Bytes))
    (opts : CloneOpts) (prior : Bytes) (seeds : List Bytes)
    (hinit : ∀ a, tryInit H features readAt ≠ .ok a) :
    let r := Clone.run H decomp features readAt readChunks opts prior seeds
    r.result ≠ .ok ∧ r.output = prior ∧ r.log = [] :=
  Proofs.run_unopened decomp readChunks opts prior seeds hinit

/-! Non-vacuity: a genuine archive whose second stored chunk is served with one byte flipped: the
clone fails; served correctly it succeeds. -/
def toyH (x : Bytes) : Bytes := (x ++ List.replicate 64 0).take 64

example :
    let src : Bytes := [1, 2, 3, 4, 5, 6, 7]
    let archive := createArchive toyH "lib" id ⟨.fixed 3, 8, none, []⟩ src
    let bad := fun (rs : List (Nat × Nat)) => (honestReadChunks archive rs).mapIdx fun i it =>
      if i = 1 then it.map (fun b => b.set 0 99) else it
    (Clone.run toyH (fun _ b _ => some b) [] (honestReadAt archive) bad {} [] []).result ≠ .ok ∧
    (Clone.run toyH (fun _ b _ => some b) [] (honestReadAt archive) (honestReadChunks archive) {} [] []).result = .ok := by
  decide +kernel

/-- The step order of `clone_archive` that `Clone.run` transcribes (scan the output and reorder in
place *before* any seed is used, fetch last, flush before resize), read from the source on every
run: a reordering of the steps in the code breaks this theorem. -/
theorem clone_steps_as_modelled :
    Gen.cloneStepOrder = ["try_init", "banner", "pin", "open_output", "device_check", "scan_output", "reorder",
                          "seed_stdin", "seed_files", "fetch", "flush", "resize", "verify_output"] :=
  Proofs.clone_step_order_fact

/-- The option parser refuses a `--verify-header` value longer than a checksum (read from cli.rs on
every run; F15 repair): what reaches the comparison is the value that was typed, not its first
64 bytes. -/
theorem pin_length_checked_fact : Gen.pinLengthChecked = true := by decide


/-! ### The `--verify-header` option from its text (src/cli.rs `parse_hash_sum`, src/string_utils.rs
`hex_str_to_vec`, modelled in `Bita.Model.Options`, tied by the in-process suite `l1 opts`) -/

/-- **C04 T3 from the text.**  A clone that gets past the pin with the bytes the option text parsed
to was given a text that denotes, pair by pair, exactly the archive's header checksum: no
abbreviation, no extension, nothing dropped by the parser (F6 and F15 violated this sentence). -/
theorem verify_header_text_gate (H : Bytes → Bytes) (decomp : Nat → Bytes → Nat → Option Bytes) (features : List Nat)
    (readAt : Nat → Nat → Option Bytes) (readChunks : List (Nat × Nat) → List (Option Bytes))
    (opts : CloneOpts) (prior : Bytes) (seeds : List Bytes) (a : Archive) (text pin : Bytes)
    (hinit : tryInit H features readAt = .ok a)
    (hparse : Options.parseHashSum text = .ok pin) (hp : opts.headerPin = some pin)
    (hok : (Clone.run H decomp features readAt readChunks opts prior seeds).result = .ok) :
    pin = a.headerChecksum ∧ 2 * a.headerChecksum.length = (Proofs.padded text).length ∧
    ∀ i (hi : i < pin.length), ∃ x y, (Proofs.padded text)[2 * i]? = some x ∧
      (Proofs.padded text)[2 * i + 1]? = some y ∧ Options.parseHexPair x y = some pin[i] :=
  Proofs.verify_header_text_gate H decomp features readAt readChunks opts prior seeds a text pin hinit hparse hp hok

/-- ... and the other direction: the hexadecimal text of a checksum (what `bita info` prints) is
accepted and parses to that checksum, so a correct pin is never refused by the parser. -/
theorem verify_header_hex_accepted (b : Bytes) (h : b.length ≤ Gen.hashMaxLen) :
    Options.parseHashSum (Proofs.hexText b) = .ok b :=
  Proofs.parseHashSum_hexText b h

/-- What one pair of characters of the text can denote (two hex digits of either case, or `+` and
one hex digit - `u8::from_str_radix` takes a sign). -/
theorem verify_header_pair_denotes (a b v : UInt8) (h : Options.parseHexPair a b = some v) :
    (a = 43 ∧ ∃ y, Options.hexDigitVal b = some y ∧ v.toNat = y) ∨
    (∃ x y, Options.hexDigitVal a = some x ∧ Options.hexDigitVal b = some y ∧ v.toNat = 16 * x + y) :=
  Proofs.parseHexPair_denotes a b v h

-- non-vacuity: an odd-length text with mixed case and a signed pair; an over-long text; a text that
-- is not ASCII (the slice panics before the parse error of the same pair is reached)
example : Options.parseHashSum [97, 48, 66, 43, 99] = .ok [0x0a, 0x0b, 0x0c] := by decide +kernel   -- "a0B+c"
example : Options.parseHashSum (List.replicate 130 48) = .refused := by decide +kernel
example : Options.parseHashSum [48, 0xC3, 0xA9, 97] = .panic := by decide +kernel

end Bita.Props.C04
