/-
  C10 — chunk boundaries resynchronise after differing prefixes.
-/
import Bita.Model.Chunker
import Bita.Spec.Chunking
import Bita.Spec.Tiling
import Bita.Proofs.ChunkStream
import Bita.Proofs.ChunkRule
import Bita.Proofs.SpecChunks
import Bita.Proofs.Reuse

namespace Bita.Props.C10
open Bita Bita.Spec

/-- **Resynchronisation (rule level).**  Two streams `P1 ++ S` and `P2 ++ S` with arbitrary
prefixes (including empty); if both have a chunk boundary at the same position `B` of the
common data `S`, at least one hash window past its start, then all later chunks are identical
(same lengths at the same positions of `S`). -/
theorem spec_resync (cfg : Config) (hv : cfg.Valid) (hroll : ∀ n, cfg ≠ .fixed n)
    (P1 P2 S : Bytes) (B : Nat) (hB : windowOf cfg ≤ B) (hBS : B ≤ S.length)
    (h1 : IsEnd (specChunks cfg (P1 ++ S)) (P1.length + B))
    (h2 : IsEnd (specChunks cfg (P2 ++ S)) (P2.length + B)) :
    chunksFrom (specChunks cfg (P1 ++ S)) (P1.length + B) P1.length =
    chunksFrom (specChunks cfg (P2 ++ S)) (P2.length + B) P2.length :=
  Proofs.spec_resync cfg hv hroll P1 P2 S B hB hBS h1 h2

/-- Fixed-size chunking resynchronises when the prefixes are aligned modulo the size. -/
theorem fixed_resync (n : Nat) (hn : 1 ≤ n) (P1 P2 S : Bytes) (B : Nat) (hBS : B ≤ S.length)
    (h1 : IsEnd (specChunks (.fixed n) (P1 ++ S)) (P1.length + B))
    (h2 : IsEnd (specChunks (.fixed n) (P2 ++ S)) (P2.length + B)) :
    chunksFrom (specChunks (.fixed n) (P1 ++ S)) (P1.length + B) P1.length =
    chunksFrom (specChunks (.fixed n) (P2 ++ S)) (P2.length + B) P2.length :=
  Proofs.fixed_resync n hn P1 P2 S B hBS h1 h2

/-- **C10 for the chunker model under any delivery**: the same statement about what the
streaming chunker emits, whatever the two read scripts are (by C09's theorems). -/
theorem resync (cfg : Config) (hv : cfg.Valid) (hroll : ∀ n, cfg ≠ .fixed n)
    (P1 P2 S : Bytes) (B : Nat) (hB : windowOf cfg ≤ B) (hBS : B ≤ S.length)
    (s1 s2 : List Rd) (hc1 : Complete s1 (P1 ++ S).length = true)
    (hc2 : Complete s2 (P2 ++ S).length = true)
    (h1 : IsEnd (chunkStream cfg (P1 ++ S) s1) (P1.length + B))
    (h2 : IsEnd (chunkStream cfg (P2 ++ S) s2) (P2.length + B)) :
    chunksFrom (chunkStream cfg (P1 ++ S) s1) (P1.length + B) P1.length =
    chunksFrom (chunkStream cfg (P2 ++ S) s2) (P2.length + B) P2.length := by
  rw [Proofs.stream_independent_of_delivery cfg hv _ s1 hc1,
      Proofs.chunkAll_eq_specChunks cfg hv] at h1 ⊢
  rw [Proofs.stream_independent_of_delivery cfg hv _ s2 hc2,
      Proofs.chunkAll_eq_specChunks cfg hv] at h2 ⊢
  exact spec_resync cfg hv hroll P1 P2 S B hB hBS h1 h2

/-! Non-vacuity: a concrete pair (one prefix empty) with a real common boundary and a non-empty
identical continuation.  This is the F5 shape (window 4, `1 2 3 5 0 0 0 0 ...`). -/
example :
    let cfg := Config.buzhash ⟨1, 0, 6, 4⟩
    let S : Bytes := [1, 2, 3, 5, 0, 0, 0, 0, 0, 9, 8, 7, 6, 5, 4, 3, 2, 1, 0, 0, 0, 0, 0, 1]
    let P2 : Bytes := [9, 9, 9]
    cfg.Valid ∧ IsEnd (specChunks cfg ([] ++ S)) (0 + 6) ∧ IsEnd (specChunks cfg (P2 ++ S)) (3 + 6) ∧
    (chunksFrom (specChunks cfg ([] ++ S)) 6 0).length ≥ 2 := by
  decide +kernel

/-- **What resynchronisation is for.**  Source `P1 ++ S`, seed `P2 ++ S`, a common boundary at least one
hash window into `S`: every source chunk that starts at or after that boundary is, byte for byte,
a chunk of the seed - so the scan of the seed finds it (`Props.C06.unchanged_tail_not_fetched`:
it is then not fetched). -/
theorem resync_chunks_in_seed (cfg : Config) (hv : cfg.Valid) (hroll : ∀ n, cfg ≠ .fixed n)
    (P1 P2 S : Bytes) (B : Nat) (hB : windowOf cfg ≤ B) (hBS : B ≤ S.length)
    (h1 : IsEnd (chunkAll cfg (P1 ++ S)) (P1.length + B))
    (h2 : IsEnd (chunkAll cfg (P2 ++ S)) (P2.length + B)) :
    ∀ c ∈ chunkAll cfg (P1 ++ S), P1.length + B ≤ c.1 →
      ∃ c' ∈ chunkAll cfg (P2 ++ S), slice (P2 ++ S) c'.1 c'.2 = slice (P1 ++ S) c.1 c.2 :=
  Proofs.resync_chunks_in_seed cfg hv hroll P1 P2 S B hB hBS h1 h2

/-- the hypotheses of `resync_chunks_in_seed` are met by a concrete pair (RollSum, window 2, prefixes of
different lengths, common boundary 2 bytes into the common data) and the tails then agree -/
example :
    let cfg : Config := .rollsum ⟨1, 1, 5, 2⟩
    let S : Bytes := [3, 1, 4, 1, 5, 9, 2, 6, 5, 3, 5, 8, 9, 7, 9]
    let P1 : Bytes := [7, 7, 1]
    let P2 : Bytes := [2]
    cfg.Valid ∧ IsEnd (chunkAll cfg (P1 ++ S)) (P1.length + 2) ∧ IsEnd (chunkAll cfg (P2 ++ S)) (P2.length + 2) ∧
    chunksFrom (chunkAll cfg (P1 ++ S)) (P1.length + 2) P1.length =
      chunksFrom (chunkAll cfg (P2 ++ S)) (P2.length + 2) P2.length ∧
    (chunksFrom (chunkAll cfg (P1 ++ S)) (P1.length + 2) P1.length).length = 9 := by
  decide +kernel

end Bita.Props.C10
