/-
  C11 — written archives conform to the documented format and report settings verbatim.
-/
import Bita.Proofs.Writer
import Bita.Proofs.TryInit
import Bita.Proofs.ProtoRoundtrip
import Bita.Proofs.Schedule
import Bita.Proofs.CliFs
import Bita.Proofs.OptionsCompose
import Bita.Proofs.Metadata

namespace Bita.Props.C11
open Bita Bita.Proto Bita.Spec Bita.Proofs

/-- **T1 (header layout).**  magic, little-endian dictionary size, protobuf dictionary, absolute
chunk-data offset (the header length when none is given), Blake2 of all preceding bytes. -/
theorem header_layout (H : Bytes → Bytes) (d : ChunkDictionary) (off : Option Nat) :
    let enc := encodeDictionary d
    let body := magicBytes ++ le64 enc.length ++ enc ++
      le64 (off.getD (magicBytes.length + 8 + enc.length + 8 + 64))
    buildHeader H d off = body ++ H body := by
  simp [buildHeader, le64_length, Nat.add_assoc]

/-- **T2 (dictionary).**  What the writer encodes, a protobuf decoder reads back unchanged. -/
theorem proto_roundtrip (d : ChunkDictionary) (hwf : DictWF d) :
    decodeDictionary (encodeDictionary d) = some d :=
  Proofs.proto_roundtrip d hwf

/-- **T3 (writer invariants)**, both writers, every source and configuration: the archive is the
header followed by the stored chunks and ends exactly at the end of the last stored chunk; the
recorded chunk-data offset is the header length (T1 with `off = none`); descriptors are stored
back-to-back in order, stored size never exceeds source size, no chunk is empty; rebuild
indexes are valid and their chunk sizes sum to the source size; size, checksum, chunker
parameters, metadata and version are recorded verbatim. -/
theorem writer_invariants (H : Bytes → Bytes) (writer : String) (hw : writer = "lib" ∨ writer = "cli")
    (comp : Bytes → Bytes) (o : CompressOpts) (hv : o.cfg.Valid) (src : Bytes)
    (hinj : ∀ c1 ∈ chunkAll o.cfg src, ∀ c2 ∈ chunkAll o.cfg src,
      H (slice src c1.1 c1.2) = H (slice src c2.1 c2.2) → slice src c1.1 c1.2 = slice src c2.1 c2.2) :
    let dict := (dictionaryOf H writer comp o src).1
    let stored := (dictionaryOf H writer comp o src).2
    let hdr := buildHeader H dict none
    createArchive H writer comp o src = hdr ++ stored.flatten ∧
    (createArchive H writer comp o src).length = hdr.length + (dict.chunkDescriptors.map (·.archiveSize)).sum ∧
    dict.chunkDescriptors.length = stored.length ∧
    (∀ i (hi : i < dict.chunkDescriptors.length),
      dict.chunkDescriptors[i].archiveOffset = runningOffset dict.chunkDescriptors i ∧
      dict.chunkDescriptors[i].archiveSize ≤ dict.chunkDescriptors[i].sourceSize ∧
      1 ≤ dict.chunkDescriptors[i].sourceSize) ∧
    (∀ i ∈ dict.rebuildOrder, i < dict.chunkDescriptors.length) ∧
    (dict.rebuildOrder.map (fun i => (dict.chunkDescriptors[i]?.map (·.sourceSize)).getD 0)).sum = src.length ∧
    dict.sourceTotalSize = src.length ∧ dict.sourceChecksum = H src ∧
    dict.chunkerParams = some (paramsOf o.cfg o.hashLen) ∧ dict.metadata = o.metadata ∧
    dict.applicationVersion = Gen.pkgVersion.toUTF8.toList :=
  Proofs.writer_invariants H writer hw comp o hv src hinj

/-- Descriptors are unique by (full) hash and in order of first occurrence. -/
theorem descriptors_unique_first_occurrence (H : Bytes → Bytes) (chunks : List Bytes) :
    let uniq := (dedup H chunks).1
    let order := (dedup H chunks).2
    (uniq.map H).Nodup ∧ order.length = chunks.length ∧
    (∀ i (hi : i < chunks.length), ∃ j u, order[i]? = some j ∧ uniq[j]? = some u ∧ H u = H chunks[i]) ∧
    (∀ u ∈ uniq, u ∈ chunks) ∧
    (order.eraseDups = List.range uniq.length) :=
  have inv := WriterDedup.inv_dedup H chunks
  ⟨inv.nodup, inv.len, inv.idx, inv.sub, inv.first⟩

/-- **T4 (reported verbatim).**  Opening what the header builder wrote reports exactly the
dictionary's values.  (`hhash`, `hsum`: what the reader checks of a dictionary since the F20 / F18
repairs - a hash length of 1..64 bytes, and chunk sizes that in rebuild order add up to the declared
source size; the writers' dictionaries meet both, `createArchive_conforms`.) -/
theorem reader_reports_verbatim (H : Bytes → Bytes) (hH : ∀ x, (H x).length = 64) (features : List Nat)
    (d : ChunkDictionary) (hwf : DictWF d) (data : Bytes)
    (p : ChunkerParameters) (c : ChunkCompression) (cfg : Config) (compr : Compr)
    (hp : d.chunkerParams = some p) (hc : d.chunkCompression = some c)
    (hcfg : configFromParams p = .ok cfg) (hcompr : compressionFromDict features c = .ok compr)
    (hord : ∀ i ∈ d.rebuildOrder, i < d.chunkDescriptors.length)
    (hhash : 1 ≤ p.chunkHashLength ∧ p.chunkHashLength ≤ 64)
    (hsum : (d.rebuildOrder.map fun i => ((d.chunkDescriptors[i]?).map (·.sourceSize)).getD 0).sum =
      d.sourceTotalSize)
    (hsz : ∀ cd ∈ d.chunkDescriptors, 1 ≤ cd.archiveSize)
    (hoff : ∀ cd ∈ d.chunkDescriptors, (buildHeader H d none).length + cd.archiveOffset + cd.archiveSize ≤ usizeMax)
    (hlen : (encodeDictionary d).length + 86 ≤ usizeMax) :
    ∃ a, tryInit H features (honestReadAt (buildHeader H d none ++ data)) = .ok a ∧
      a.config = cfg ∧ a.hashLength = p.chunkHashLength ∧ a.compression = compr ∧
      a.metadata = d.metadata ∧ a.version = d.applicationVersion ∧
      a.sourceTotalSize = d.sourceTotalSize ∧
      a.sourceChecksum = hashTruncate d.sourceChecksum 64 ∧
      a.sourceOrder = d.rebuildOrder ∧
      a.headerSize = (buildHeader H d none).length ∧
      a.chunkDataOffset = (buildHeader H d none).length ∧
      a.chunks = d.chunkDescriptors.map (fun cd =>
        ⟨hashTruncate cd.checksum 64, cd.archiveSize, (buildHeader H d none).length + cd.archiveOffset, cd.sourceSize⟩) :=
  tryInit_buildHeader H hH features d hwf data p c cfg compr hp hc hcfg hcompr hord hhash hsum hsz hoff hlen

/-- The CLI writer's temp file is complete when it is copied (so "ends exactly at the last stored
chunk" also holds for the process, not only for the sequential model). -/
theorem temp_file_complete (late : Bool) (chunks : List Bytes) :
    tempFileSeen true late chunks = chunks.flatten :=
  Proofs.temp_file_complete late chunks

/-- ... also when a longer, stale temp file exists (left by an interrupted compress): the CLI
writer's archive is still exactly the sequential model's, so it ends at the last stored chunk. -/
theorem stale_temp_file_does_not_leak (H : Bytes → Bytes) (comp : Bytes → Bytes) (c : CompressCmd) (fs : Fs)
    (old : Bytes) (htmp : fs.get c.temp = some (.regular old))
    (hdistinct : c.temp ≠ c.output ∧ c.input ≠ c.output ∧ c.input ≠ c.temp)
    (hflush : Gen.cliTempFlushedBeforeReturn = true) :
    let r := Cli.compress H comp c fs
    r.ok = true →
      r.fs.get c.temp = none ∧
      (∃ src, (fs.get c.input).map (·.data) = some src ∧
        r.fs.get c.output = some (.regular (createArchive H "cli" comp c.opts src))) :=
  Proofs.compress_ignores_stale_temp H comp c fs old htmp hdistinct hflush

/-! Non-vacuity: a concrete archive, its layout read back. -/
def toyH (x : Bytes) : Bytes := (x ++ List.replicate 64 0).take 64

example :
    let src : Bytes := [1, 2, 3, 1, 2, 3, 9]
    let dict := (dictionaryOf toyH "cli" id ⟨.fixed 3, 8, none, [([107], [118])]⟩ src).1
    dict.rebuildOrder = [0, 0, 1] ∧ dict.chunkDescriptors.map (·.archiveOffset) = [0, 3] ∧
    decodeDictionary (encodeDictionary dict) = some dict := by
  decide +kernel

/-- The library writer flushes its temp file before reading it back (read from api/compress.rs on
every run; F16 repair), as the command line writer does (`Gen.cliTempFlushedBeforeReturn`). -/
theorem lib_temp_file_flushed_fact : Gen.libTempFlushedBeforeRewind = true := by decide

/-- The command line refuses chunk sizes that do not fit the 32-bit fields of the dictionary (read
from cli.rs on every run; F21 repair): the `u32` bounds of `OptsOK` are what the CLI enforces. -/
theorem cli_sizes_fit_u32_fact : Gen.cliSizesFitU32 = true := by decide


/-! ### From the option texts to the recorded values (src/cli.rs, src/string_utils.rs,
`FilterBits::from_size`; modelled in `Bita.Model.Options`, tied by the in-process suite `l1 opts`) -/

/-- A size text is accepted with value `n` iff it is a number, alone or followed by one of the units
of the table read from string_utils.rs, and `n` is the number times the unit's multiplier, below 2^64. -/
theorem size_text_denotes (s : Options.Txt) (n : Nat) :
    Options.parseHumanSize s = .ok n ↔
      ∃ num v m, Options.parseUnsigned 64 num = some v ∧ n = m * v ∧ n < 2 ^ 64 ∧
        ((s = num ∧ m = 1) ∨ ∃ u, (u, m) ∈ Gen.sizeUnits ∧ s = num ++ u) :=
  Proofs.parseHumanSize_ok_iff s n

/-- `parse_chunker_opts` accepts exactly `2 <= avg`, `min <= avg <= max < 2^32`, `window < 2^32` (the last
two are the F21 repair) and records `log2 avg - 1` filter bits. -/
theorem chunker_options_accepted_iff (avg mn mx w : Nat) (f : FilterConfig) :
    Options.parseChunkerOpts avg mn mx w = .ok f ↔
      (2 ≤ avg ∧ mn ≤ avg ∧ avg ≤ mx ∧ mx < 2 ^ 32 ∧ w < 2 ^ 32 ∧ f = ⟨Nat.log2 avg - 1, mn, mx, w⟩) :=
  Proofs.parseChunkerOpts_ok_iff avg mn mx w f

/-- What an accepted `bita compress` command line hands to the writer: every size fits the 32-bit
field it is recorded in, the hash length is in the range the reader accepts, the compression is
none or brotli at a level within its range, the temp file is `tempPathOf output`. -/
theorem cli_accepts_only_recordable_options (a : Options.CompressArgs) (p : Options.CompressParsed)
    (h : Options.parseCompress a = .ok p) :
    p.cmd.output = a.output ∧ p.cmd.temp = tempPathOf a.output ∧ p.cmd.flags = ⟨a.force, false, false⟩ ∧
    p.stdin = a.input.isNone ∧ p.cmd.opts.metadata = [] ∧
    Gen.cliHashLengthMin ≤ p.cmd.opts.hashLen ∧ p.cmd.opts.hashLen ≤ Gen.hashMaxLen ∧
    (p.cmd.opts.compression = none ∨ ∃ l, 1 ≤ l ∧ l ≤ Gen.brotliMaxLevel ∧
      p.cmd.opts.compression = some (Gen.enum_CompressionType_BROTLI, l)) ∧
    (match p.cmd.opts.cfg with
      | .buzhash f | .rollsum f =>
        f.minSize ≤ f.maxSize ∧ 2 ≤ f.maxSize ∧ f.maxSize < 2 ^ 32 ∧ f.window < 2 ^ 32 ∧ f.bits ≤ 30
      | .fixed n => n < 2 ^ 32) :=
  Proofs.parseCompress_ok a p h

/-- **Requested = recorded = reported**, from the command line: for every accepted command line
outside the misuse set (`Proofs.NotMisuse`), the reader's conversions applied to what the CLI
writer records give back exactly the configuration, hash length and compression the texts denote. -/
theorem cli_requested_is_reported (a : Options.CompressArgs) (p : Options.CompressParsed)
    (h : Options.parseCompress a = .ok p) (hm : NotMisuse p.cmd.opts.cfg)
    (H : Bytes → Bytes) (comp : Bytes → Bytes) (src : Bytes) :
    ∃ prm c, (dictionaryOf H "cli" comp p.cmd.opts src).1.chunkerParams = some prm ∧
      (dictionaryOf H "cli" comp p.cmd.opts src).1.chunkCompression = some c ∧
      configFromParams prm = .ok p.cmd.opts.cfg ∧ prm.chunkHashLength = p.cmd.opts.hashLen ∧
      compressionFromDict [] c = .ok p.cmd.opts.compression ∧
      (dictionaryOf H "cli" comp p.cmd.opts src).1.metadata = [] :=
  Proofs.cli_requested_is_reported a p h hm H comp src

/-- **Metadata, from the command line to the archive.**  The map `compress_cmd` builds from the
`--metadata-value` pairs and then the `--metadata-file` pairs (model `Options.metadataOf`, tied by CLI
runs with repeated keys and files in `py c11_conformance`) is strictly ascending by key - so no key is
recorded twice - holds only pairs that were given, and records for every key the LAST value given. -/
theorem cli_metadata_map (strings files : List (Bytes × Bytes)) :
    (Options.metadataOf strings files).Pairwise Proofs.KeyLt ∧
    (∀ e ∈ Options.metadataOf strings files, e ∈ strings ++ files) ∧
    ∀ k, Proofs.metaLookup (Options.metadataOf strings files) k = Proofs.lastGiven (strings ++ files) k :=
  ⟨Proofs.metadataOf_sorted strings files, Proofs.metadataOf_mem strings files,
    Proofs.metadataOf_lookup strings files⟩

/-- ... and with it the configuration handed to the writer is `OptsOK` (the hypothesis of the writer,
format and round-trip theorems) for every accepted command line outside the misuse set, whatever
metadata is given (keys are Rust `String`s, hence UTF-8). -/
theorem cli_options_with_metadata_ok (a : Options.CompressArgs) (p : Options.CompressParsed)
    (h : Options.parseCompress a = .ok p) (hm : NotMisuse p.cmd.opts.cfg)
    (strings files : List (Bytes × Bytes)) (hk : ∀ e ∈ strings ++ files, utf8Valid e.1 = true) :
    OptsOK { p.cmd.opts with metadata := Options.metadataOf strings files } := by
  have ho := (Proofs.cli_options_ok_iff a p h).2 hm
  exact { valid := ho.valid, accepted := ho.accepted, u32 := ho.u32, hash_len := ho.hash_len, compr := ho.compr,
          meta_utf8 := fun e he => hk e (Proofs.metadataOf_mem strings files e he),
          meta_sorted := Proofs.metadataOf_sorted strings files }

example : Options.metadataOf [([98], [1]), ([97], [2]), ([98], [3])] [([97], [4]), ([], [5])] =
    [([], [5]), ([97], [4]), ([98], [3])] := by decide +kernel

-- non-vacuity: the defaults; a command line with units, a sign and BuzHash; the 4 GiB boundary of F21;
-- the overflow of the size multiplication; a target average without a filter bit
def exDefaults : Options.CompressArgs := { output := "a.cba" }
def exUnits : Options.CompressArgs :=
  { output := "x/y.z", avg := some ['+', '5', 'K', 'i', 'B'], min := some ['1'], max := some ['3', 'M', 'i', 'B'],
    hashChunking := some ['B', 'u', 'z', 'H', 'a', 's', 'h'], hashLength := some ['0', '8'],
    compression := some ['n', 'o', 'n', 'e'] }
def exMax (t : Options.Txt) : Options.CompressArgs := { output := "a", max := some t }
def exAvg3 : Options.CompressArgs := { output := "a", avg := some ['3'], min := some ['0'] }

example : ∃ p, Options.parseCompress exDefaults = .ok p ∧
    p.cmd.opts.cfg = .rollsum ⟨15, 16384, 16777216, 64⟩ ∧ p.cmd.opts.hashLen = 64 := by
  refine ⟨_, rfl, ?_⟩; decide +kernel
example : ∃ p, Options.parseCompress exUnits = .ok p ∧
    p.cmd.opts.cfg = .buzhash ⟨11, 1, 3145728, 16⟩ ∧ p.cmd.opts.hashLen = 8 ∧ p.cmd.opts.compression = none := by
  refine ⟨_, rfl, ?_⟩; decide +kernel
example : (Options.parseCompress (exMax ['4', 'G', 'i', 'B'])).isRefused = true := by decide +kernel
example : ∃ p, Options.parseCompress (exMax ['4', '0', '9', '5', 'M', 'i', 'B']) = .ok p := ⟨_, rfl⟩
example : Options.parseHumanSize ['1', '7', '1', '7', '9', '8', '6', '9', '1', '8', '4', 'G', 'i', 'B'] = .panic := by
  decide +kernel
example : ∃ p, Options.parseCompress exAvg3 = .ok p ∧ ¬ NotMisuse p.cmd.opts.cfg := by
  refine ⟨_, rfl, ?_⟩; decide +kernel

/-- **Metadata, from the archive back to the reader.**  The writer's map model (`Options.metaInsert`,
`compress_cmd`) and the reader's (`Proto.mapInsert`, prost's map merge in `decodeDictionary`) were
written separately against different call sites; they are one function, so decoding the entries of
a written map in order rebuilds the map `compress_cmd` built. -/
theorem metadata_reader_and_writer_maps_agree (k v : Bytes) (m : List (Bytes × Bytes)) :
    Proto.mapInsert k v m = Options.metaInsert m k v :=
  Proofs.mapInsert_eq_metaInsert k v m

theorem decoded_metadata_entries_rebuild_the_written_map (pairs : List (Bytes × Bytes)) :
    pairs.foldl (fun m e => Proto.mapInsert e.1 e.2 m) [] = Options.metadataOf pairs [] := by
  unfold Options.metadataOf
  simp only [List.append_nil, Proofs.mapInsert_eq_metaInsert]

example : [([2], [9]), ([1], [7]), ([2], [8])].foldl (fun m (e : Bytes × Bytes) => Proto.mapInsert e.1 e.2 m) []
    = [([1], [7]), ([2], [8])] := by decide +kernel

end Bita.Props.C11
