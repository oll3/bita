/-
  C05 — an interrupted clone can always be completed by re-running in place.
-/
import Bita.Proofs.CloneNoJunk
import Bita.Proofs.Schedule
import Bita.Proofs.StepOrder
import Bita.Proofs.CliRoundtrip

namespace Bita.Props.C05
open Bita Bita.Spec Bita.Proofs

/-- The output as an interruption leaves it: the first `k` writes of a run's write log carried
out, and the first `t` bytes of the next one (a torn write). -/
def crashedFile (prior : Bytes) (writes : List (Nat × Bytes)) (k t : Nat) : Bytes :=
  let f := (writes.take k).foldl (fun d w => writeAt d w.1 w.2) prior
  match writes[k]? with
  | some w => if t = 0 then f else writeAt f w.1 (w.2.take t)
  | none => f

/-- **T1.**  Take *any* clone run (any options, seeds, prior output, even a misbehaving reader)
and interrupt it at *any* point: after any number `k` of its writes, in the middle (`t` bytes)
of the next.  Re-running the clone in place on what was left, with an honest reader over the
archive, completes and yields exactly the source.  The only escape is a collision of the
truncated strong hash with a genuine source chunk; colliding junk chunks in what the crash left
are irrelevant (`Proofs.Planner.reorderOps_keep`).  (The in-place theorem holds for every prior content,
so in particular for every crashed content; it is stated here with the crash relation so that
it is not vacuous.) -/
theorem rerun_completes (H : Bytes → Bytes) (hH : ∀ x, (H x).length = 64)
    (decomp : Nat → Bytes → Nat → Option Bytes) (features : List Nat)
    (archive : Bytes) (a : Archive) (src : Bytes) (cks : List Bytes)
    (hinit : tryInit H features (honestReadAt archive) = .ok a) (hd : Describes H a src cks)
    (hs : Stored H decomp a archive)
    -- the interrupted run: anything
    (readChunks₁ : List (Nat × Nat) → List (Option Bytes)) (opts₁ : CloneOpts) (prior seeds₁)
    (k t : Nat)
    -- the re-run: in place, regular file, any further seeds
    (seeds₂ : List Bytes) :
    let run₁ := Clone.run H decomp features (honestReadAt archive) readChunks₁ opts₁ prior seeds₁
    let left := crashedFile prior (writesOf run₁.log) k t
    let r := Clone.run H decomp features (honestReadAt archive) (honestReadChunks archive)
      { seedOutput := true } left seeds₂
    (r.result = .ok ∧ r.output = src) ∨ Collision H a.hashLength cks := by
  intro run₁ left r
  exact (clone_complete_nojunk H hH decomp features archive { seedOutput := true } left seeds₂ a src cks hinit hd hs
    nofun nofun).imp_left fun ⟨hok, _, hout⟩ => ⟨hok, hout rfl⟩

/-- **T1 at the command line** (file-system model, open flags read from the source): whatever bytes
`left` an interrupted run - or a chain of them - has left in the output file, `bita clone
--seed-output` of a conforming archive into it, with any seed files that exist, succeeds and
leaves exactly the source there; or a collision with a genuine source chunk is exhibited. -/
theorem cli_rerun_completes (H : Bytes → Bytes) (hH : ∀ x, (H x).length = 64)
    (decomp : Nat → Bytes → Nat → Option Bytes) (kc : CloneCmd) (fs : Fs) (an : Node)
    (a : Archive) (src : Bytes) (cks : List Bytes)
    (harch : fs.get kc.archivePath = some an)
    (hinit : tryInit H [] (honestReadAt an.data) = .ok a) (hd : Describes H a src cks)
    (hs : Stored H decomp a an.data) (hpin : kc.pin = none)
    (hso : kc.flags.seedOutput = true) (left : Bytes) (hleft : fs.get kc.output = some (.regular left))
    (hseeds : ∀ p ∈ kc.seedPaths, (fs.get p).isSome) :
    ((Cli.clone H decomp kc fs).ok = true ∧
        (Cli.clone H decomp kc fs).fs.get kc.output = some (.regular src)) ∨
      Collision H a.hashLength cks :=
  clone_conforming_fs H hH decomp kc fs an a src cks harch hinit hd hs hpin
    (Or.inr ⟨Or.inr hso, left, hleft⟩) (fun p hp => Or.inl (hseeds p hp))

/-- Repeated interruptions: whatever content a chain of interrupted runs leaves, the final
complete in-place run yields the source.  (Each link is `rerun_completes`; the chain is
summarised by "for every content `left`".) -/
theorem rerun_completes_any_content (H : Bytes → Bytes) (hH : ∀ x, (H x).length = 64)
    (decomp : Nat → Bytes → Nat → Option Bytes) (features : List Nat)
    (archive : Bytes) (a : Archive) (src : Bytes) (cks : List Bytes)
    (hinit : tryInit H features (honestReadAt archive) = .ok a) (hd : Describes H a src cks)
    (hs : Stored H decomp a archive) (left : Bytes) (seeds : List Bytes) :
    let r := Clone.run H decomp features (honestReadAt archive) (honestReadChunks archive)
      { seedOutput := true } left seeds
    (r.result = .ok ∧ r.output = src) ∨ Collision H a.hashLength cks := by
  intro r
  exact (clone_complete_nojunk H hH decomp features archive { seedOutput := true } left seeds a src cks hinit hd hs
    nofun nofun).imp_left fun ⟨hok, _, hout⟩ => ⟨hok, hout rfl⟩

/-- **T2.**  A run whose write failed never reports success: whichever of the output writes
fails (the tokio file reports a failed background write only at the next write or flush), the
tail of `clone_archive` - with the flush the source has before the resize - ends in an error. -/
theorem failed_write_not_success (f : TFile) (hclean : f.inflight = none ∧ f.lastErr = false)
    (writes : List (Nat × Bytes)) (total : Nat) (k : Nat) (hk : k < writes.length) :
    Gen.cloneOutputFlushedBeforeResize = true ∧
    (cloneTail true (some (f.performed + k)) f writes total).1 = false :=
  ⟨flushes_are_in_the_source.2, Proofs.failed_write_not_success f hclean writes total k hk⟩

/-- ... and with no fault it reports success with every write in the file. -/
theorem no_fault_success (f : TFile) (hclean : f.inflight = none ∧ f.lastErr = false)
    (writes : List (Nat × Bytes)) (total : Nat) :
    cloneTail true none f writes total =
      (true, setLen (writes.foldl (fun d w => writeAt d w.1 w.2) f.data) total) :=
  Proofs.no_fault_success f hclean writes total

/-- The defect T2 rules out (F7), kept as a witness: without the flush, a failing *last* write is
reported as success with an incomplete file. -/
example : cloneTail false (some 1) (TFile.new []) [(0, [1, 2]), (2, [3, 4])] 4 = (true, [1, 2, 0, 0]) := by
  decide +kernel

/-! Non-vacuity of T1: a concrete run interrupted in the middle of its second write; the
crashed file differs from both prior and source; the re-run completes. -/
def toyH (x : Bytes) : Bytes := (x ++ List.replicate 64 0).take 64

example :
    let src : Bytes := [1, 2, 3, 4, 5, 6, 7]
    let archive := createArchive toyH "lib" id ⟨.fixed 3, 8, none, []⟩ src
    let run₁ := Clone.run toyH (fun _ b _ => some b) [] (honestReadAt archive) (honestReadChunks archive) {} [9, 9] []
    let left := crashedFile [9, 9] (writesOf run₁.log) 1 2
    left = [1, 2, 3, 4, 5] ∧
    (Clone.run toyH (fun _ b _ => some b) [] (honestReadAt archive) (honestReadChunks archive)
      { seedOutput := true } left []).output = src := by
  decide +kernel

/-- The step order of `clone_archive` that `Clone.run` transcribes (scan the output and reorder in
place *before* any seed is used, fetch last, flush before resize), read from the source on every
run: a reordering of the steps in the code breaks this theorem. -/
theorem clone_steps_as_modelled :
    Gen.cloneStepOrder = ["try_init", "banner", "pin", "open_output", "device_check", "scan_output", "reorder",
                          "seed_stdin", "seed_files", "fetch", "flush", "resize", "verify_output"] :=
  Proofs.clone_step_order_fact

end Bita.Props.C05
