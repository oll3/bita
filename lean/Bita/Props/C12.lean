/-
  C12 — compress is deterministic: same input and options, same archive bytes.
-/
import Bita.Proofs.Schedule
import Bita.Proofs.ChunkStream
import Bita.Proofs.Writer

namespace Bita.Props.C12
open Bita Bita.Spec Bita.Proofs

/-- The archive a writer produces when its input arrives under the read script `script`, its
blocking stages run under the schedules `s1`, `s2` with `n` buffers, and (CLI) the last temp
write is late or not: every ingredient that could vary between runs is an explicit argument. -/
def archiveOfRun (H : Bytes → Bytes) (writer : String) (comp : Bytes → Bytes) (o : CompressOpts)
    (src : Bytes) (script : List Rd) (n : Nat) (s1 s2 : List SchedEv) (late : Bool) : Bytes :=
  -- chunking under the delivery
  let chunks := (chunkStream o.cfg src script).map fun c => slice src c.1 c.2
  -- hashing stage, then dedup, then compression stage: both `buffered(n)`
  let hashed := (stageRun (Gen.cliCompressCombinators.headD "?") n chunks s1).out
  let (uniq, order) := dedup H hashed
  let compressed := (stageRun ((Gen.cliCompressCombinators.drop 1).headD "?") n uniq s2).out
  let stored := compressed.map (storedBytes writer (if o.compression.isSome then comp else id))
  let dict : Proto.ChunkDictionary :=
    { applicationVersion := Gen.pkgVersion.toUTF8.toList, sourceChecksum := H src, sourceTotalSize := src.length
      chunkerParams := some (paramsOf o.cfg o.hashLen)
      chunkCompression := some (match o.compression with
        | some (c, l) => ⟨c, l⟩
        | none => ⟨Gen.enum_CompressionType_NONE, 0⟩)
      rebuildOrder := order, chunkDescriptors := descriptorsOf H o.hashLen compressed stored, metadata := o.metadata }
  buildHeader H dict none ++ tempFileSeen Gen.cliTempFlushedBeforeReturn late stored

/-- **C12.**  For every complete delivery of the input (file, pipe, any read sizes, Pendings), any
number of buffers, every completion schedule of the hashing and compression stages that lets
them finish, and either timing of the last temp-file write, the archive bytes are those of the
sequential model `createArchive` - a function of source and options only. -/
theorem archive_independent_of_schedule_and_delivery (H : Bytes → Bytes) (writer : String)
    (comp : Bytes → Bytes) (o : CompressOpts) (hv : o.cfg.Valid) (src : Bytes)
    (script : List Rd) (hc : Complete script src.length = true)
    (n : Nat) (s1 s2 : List SchedEv) (late : Bool)
    (hdone1 : let chunks := (chunkAll o.cfg src).map fun c => slice src c.1 c.2
              (stageRun "buffered" n chunks s1).inflight = [] ∧ (stageRun "buffered" n chunks s1).input = [])
    (hdone2 : let uniq := (dedup H ((chunkAll o.cfg src).map fun c => slice src c.1 c.2)).1
              (stageRun "buffered" n uniq s2).inflight = [] ∧ (stageRun "buffered" n uniq s2).input = []) :
    archiveOfRun H writer comp o src script n s1 s2 late = createArchive H writer comp o src := by
  -- the list arguments are left to unification: written out, their `fun c => slice src c.1 c.2` gets
  -- its binder type late and the stages are compared with the hypotheses' by unfolding `stageRun`
  have e1 := buffered_complete n _ s1 hdone1.1 hdone1.2
  have e2 := buffered_complete n _ s2 hdone2.1 hdone2.2
  have hcomb : Gen.cliCompressCombinators = ["buffered", "buffered"] := rfl
  have hf : Gen.cliTempFlushedBeforeReturn = true := rfl
  unfold archiveOfRun
  rw [stream_independent_of_delivery o.cfg hv src script hc, hcomb, hf]
  simp only [List.headD_cons, List.drop_one, List.tail_cons, e1, e2, Proofs.temp_file_complete]
  rfl

/-- Metadata is emitted in key order and fields in tag order: the encoder is a function (no
hash-map iteration order is involved) - immediate, the encoder being a Lean function; the
correspondence runs compare it byte for byte with prost's output. -/
theorem encoding_is_a_function (d1 d2 : Proto.ChunkDictionary) (h : d1 = d2) :
    Proto.encodeDictionary d1 = Proto.encodeDictionary d2 := by rw [h]

/-! Non-vacuity: a source with a duplicate chunk, two different deliveries and schedules. -/
def toyH (x : Bytes) : Bytes := (x ++ List.replicate 64 0).take 64

example :
    let o : CompressOpts := ⟨.fixed 3, 8, none, []⟩
    let src : Bytes := [1, 2, 3, 1, 2, 3, 9]
    archiveOfRun toyH "cli" id o src [.bytes 2, .pending, .bytes 100, .bytes 1] 2
      [.poll, .finish 1, .finish 0, .poll, .poll, .poll, .finish 0, .poll] [.poll, .finish 1, .poll, .finish 0, .poll, .poll] true
    = archiveOfRun toyH "cli" id o src [.bytes 100, .bytes 1] 8
      [.poll, .finish 0, .finish 1, .finish 2, .poll, .poll, .poll] [.poll, .finish 0, .poll, .finish 0, .poll] false := by
  decide +kernel

/-- The library writer flushes its temp file before reading it back (read from api/compress.rs on
every run; F16 repair), as the command line writer does (`Gen.cliTempFlushedBeforeReturn`). -/
theorem lib_temp_file_flushed_fact : Gen.libTempFlushedBeforeRewind = true := by decide

/-- **Why the combinator is an obligation.**  The model knows both stream combinators.  Under the
other one (`buffer_unordered`, the `else` branch of `stageRun`) a drained stage still emits every
item exactly once, under every schedule - nothing is lost or duplicated - and never holds more than
`n` tasks, but only as a *permutation* of its input: the order follows the schedule (witness below),
and with it the archive bytes.  The determinism theorem above therefore rests on the `buffered`
fact read from the source, not on a property every combinator has. -/
theorem unordered_stage_emits_each_item_once {α : Type} (comb : String) (hc : comb ≠ "buffered")
    (n : Nat) (xs : List α) (sched : List SchedEv)
    (hi : (stageRun comb n xs sched).input = []) (hf : (stageRun comb n xs sched).inflight = []) :
    List.Perm (stageRun comb n xs sched).out xs := by
  unfold stageRun at hi hf ⊢
  simp only [if_neg hc] at hi hf ⊢
  exact BufSt.content_of_drained _ hf hi ▸
    List.foldlRecOn (motive := fun s => (BufSt.content s).Perm xs) sched _ (.refl _)
      fun s hs e _ => (BufSt.content_stepUnordered n s e).trans hs

theorem unordered_stage_holds_at_most_n {α : Type} (n : Nat) (s : BufSt α) (e : SchedEv)
    (h : s.inflight.length ≤ n) : (s.stepUnordered n e).inflight.length ≤ n := by
  -- topping up adds `min (n - l) _` tasks to the `l` in flight
  have ht : (s.inflight ++ (s.input.take (n - s.inflight.length)).map (·, false)).length ≤ n := by
    simp only [List.length_append, List.length_map, List.length_take]
    exact Nat.le_trans (Nat.add_le_add_left (Nat.min_le_left _ _) _) (Nat.le_of_eq (Nat.add_sub_of_le h))
  cases e with
  | finish i => simpa [BufSt.stepUnordered] using h
  | poll =>
    simp only [BufSt.stepUnordered]
    split
    · exact Nat.le_trans (List.length_eraseIdx_le _ _) ht
    · exact ht

/-- the same two items, two schedules, two orders -/
example : (stageRun "buffer_unordered" 2 [1, 2] [.poll, .finish 1, .poll, .finish 0, .poll]).out = [2, 1] ∧
    (stageRun "buffer_unordered" 2 [1, 2] [.poll, .finish 0, .poll, .finish 0, .poll]).out = [1, 2] ∧
    (stageRun "buffered" 2 [1, 2] [.poll, .finish 1, .poll, .finish 0, .poll, .poll]).out = [1, 2] := by decide +kernel

end Bita.Props.C12
