/-
  C08 — archive readers deliver exactly the requested bytes despite fragmentation / faults.
-/
import Bita.Model.Readers
import Bita.Spec.Resume
import Bita.Proofs.Http
import Bita.Proofs.IoReader
import Bita.Proofs.ReaderEnv
import Bita.Proofs.HttpSafe
import Bita.Proofs.Options

namespace Bita.Props.C08
open Bita Bita.Spec

def honest (data : Bytes) (off size : Nat) : Bytes := slice data off size

/-- **C08 (HTTP).**  For every chunk list (adjacent, gapped, unordered), every retry budget and
*every* failure script (refusals, cuts after any byte, clean early ends, any fragmentation,
any number of them) against a server that returns the right bytes when it answers, the items
and the requests of the model of `HttpReader::read_chunks` are those of the run-level
specification `fetchAll`: resume at the first missing byte, fresh budget per run, complete
chunks first, then at most one error, then nothing. -/
theorem http_resume (data : Bytes) (retry : Nat) (chunks : List ChunkOffset) (script : List Resp)
    (hsize : ∀ c ∈ chunks, 1 ≤ c.size)
    (hin : ∀ c ∈ chunks, c.stop ≤ data.length) :
    httpReadChunks (honest data) retry script chunks =
      fetchAll data retry (maximalRuns chunks) script :=
  Proofs.http_resume data retry chunks script hsize hin

/-- Reading the specification: whatever the script, the items are an exact prefix of the
requested chunks followed by nothing (all delivered) or by exactly one error / stall item.
Never a short, shifted or duplicated chunk. -/
theorem http_items_exact_prefix (data : Bytes) (retry : Nat) (chunks : List ChunkOffset)
    (script : List Resp)
    (hsize : ∀ c ∈ chunks, 1 ≤ c.size) (hin : ∀ c ∈ chunks, c.stop ≤ data.length) :
    ∃ k tail, k ≤ chunks.length ∧
      (httpReadChunks (honest data) retry script chunks).items =
        (chunks.take k).map (exactItem data) ++ tail ∧
      ((tail = [] ∧ k = chunks.length) ∨ tail = [Item.stall] ∨ tail = [Item.errHttp] ∨
        tail = [Item.errEnd]) :=
  Proofs.http_items_exact_prefix data retry chunks script hsize hin

/-- Resumption, read off `fetchRun`: every request issued for a run ends at the run's end, and
the request after a failed attempt starts exactly where the bytes received so far end. -/
theorem fetchRun_requests (stop pos budget : Nat) (script : List Resp) (hle : pos ≤ stop) :
    let r := fetchRun stop pos budget script
    (∀ q ∈ r.2.1, q.1 + q.2 = stop ∧ pos ≤ q.1) ∧ pos ≤ r.1 ∧ r.1 ≤ stop ∧
    (r.2.2.1 = RunEnd.done → r.1 = stop) :=
  Proofs.fetchRun_requests stop pos budget script hle

/-- **C08 (local).**  For any list of ranges, any script of short reads / `Pending`s / errors:
the items are an exact prefix of the requested ranges followed by nothing or exactly one
error; a range that the file cannot fill ends in `UnexpectedEof`. -/
theorem io_reader_sound (file : Bytes) (chunks : List ChunkOffset) (buf0 : Bytes)
    (script : List ReadEv) (hsize : ∀ c ∈ chunks, 1 ≤ c.size) :
    ∃ k tail, k ≤ chunks.length ∧
      ioReadChunks file chunks buf0 script = (chunks.take k).map (exactItem file) ++ tail ∧
      (∀ c ∈ chunks.take k, c.stop ≤ file.length) ∧
      ((tail = [] ∧ k = chunks.length) ∨ tail = [Item.stall] ∨ tail = [Item.errEof] ∨
        tail = [Item.errIo]) :=
  Proofs.io_reader_sound file chunks buf0 script hsize

/-- ... and when the ranges lie inside the file and the script has no error and no empty read,
every range is delivered as soon as the script holds enough reads (one per byte always
suffices), however short the reads and wherever the `Pending`s are. -/
theorem io_reader_complete (file : Bytes) (chunks : List ChunkOffset) (buf0 : Bytes)
    (script : List ReadEv) (hsize : ∀ c ∈ chunks, 1 ≤ c.size)
    (hin : ∀ c ∈ chunks, c.stop ≤ file.length)
    (hok : ∀ e ∈ script, e = ReadEv.pending ∨ ∃ n, 1 ≤ n ∧ e = ReadEv.bytes n)
    (hlen : (chunks.map (·.size)).sum ≤ (script.filter (· ≠ ReadEv.pending)).length) :
    ioReadChunks file chunks buf0 script = chunks.map (exactItem file) :=
  Proofs.io_reader_complete file chunks buf0 script hsize hin hok hlen

/-- **`read_at`** (header reads) of both readers: exactly `size` bytes or an error, for *any*
server / transport / short-read behaviour - never a short or over-long answer. -/
theorem read_at_exact (eh : HttpEnv) (ei : IoEnv) :
    (∀ off size b, eh.readAt off size = some b → b.length = size) ∧
    (∀ off size b, ei.readAt off size = some b → b.length = size) :=
  ⟨Proofs.http_env_exact eh, Proofs.io_env_exact ei⟩

/-- The single-read path over HTTP (`read_at`): every request is for exactly the asked range (a retry
starts from scratch) and there are at most `retry + 1` of them. -/
theorem http_read_at_requests (serve : Nat → Nat → Bytes) (retry offset size : Nat) (script : List Resp) :
    (∀ q ∈ (httpReadAt serve retry offset size script).2, q = (offset, size)) ∧
    (httpReadAt serve retry offset size script).2.length ≤ retry + 1 :=
  (Proofs.httpReadAt_spec serve offset size script retry).2.2

/-- **Never shifted by what a server adds.**  A server that appends anything at all to every answer
yields exactly the stream and the requests of the server that sends the requested bytes only: no
surplus is delivered, and none leaks into the next run (the fragment truncation is in the source:
`Gen.httpFragmentClipped`). -/
theorem http_surplus_irrelevant (data : Bytes) (extra : Nat → Nat → Bytes) (retry : Nat)
    (script : List Resp) (chunks : List ChunkOffset)
    (hsize : ∀ c ∈ chunks, 1 ≤ c.size) (hin : ∀ c ∈ chunks, c.stop ≤ data.length) :
    httpReadChunks (fun off size => slice data off size ++ extra off size) retry script chunks =
      httpReadChunks (fun off size => slice data off size) retry script chunks := by
  refine (Proofs.httpReadChunks_any hsize ?_ script).1
  intro off size ⟨⟨c, hc, he⟩, _⟩
  have := hin c hc
  exact List.take_append_of_le_length (by rw [Proofs.slice_length (by omega)]; exact Nat.le_refl _)

/-! Non-vacuity: a run of two chunks failing three times (budget 3), resumed at +3 and +5. -/
example :
    let data : Bytes := (List.range 40).map (·.toUInt8)
    let chunks : List ChunkOffset := [⟨3, 4⟩, ⟨7, 2⟩, ⟨20, 5⟩]
    let o := httpReadChunks (honest data) 3
      [.part 3 [1] true, .refuse, .part 2 [] true, .full [2], .part 1 [] false] chunks
    o.reqs = [(3, 6), (6, 3), (6, 3), (8, 1), (20, 5)] ∧
    o.items = [exactItem data ⟨3, 4⟩, exactItem data ⟨7, 2⟩, Item.errEnd] := by
  decide +kernel

example :
    let file : Bytes := (List.range 40).map (·.toUInt8)
    ioReadChunks file [⟨30, 4⟩, ⟨2, 3⟩, ⟨38, 5⟩] []
      [.bytes 1, .pending, .bytes 9, .bytes 2, .pending, .bytes 1, .bytes 7, .bytes 7, .bytes 1]
    = [exactItem file ⟨30, 4⟩, exactItem file ⟨2, 3⟩, Item.errEof] := by
  decide +kernel

/-- **"Up to the configured retry count", from the command line.**  The budget of the HTTP reader is the
number that the `--http-retry-count` text denotes (`Options.parseClone`, tied in process to
`cli::parse_opts`; 0 when the option is not given): with an honest server, at most that many failing
responses in the chunk stream (refused, or cut anywhere in the body), no body that ends early without
an error and enough complete responses, the clone succeeds with exactly the source - or a hash
collision is exhibited. -/
theorem clone_completes_within_the_configured_retry_count (H : Bytes → Bytes) (hH : ∀ x, (H x).length = 64)
    (decomp : Nat → Bytes → Nat → Option Bytes) (features : List Nat)
    (ka : Options.CloneArgs) (pk : Options.CloneParsed) (hpk : Options.parseClone ka = .ok pk)
    (archive : Bytes) (e : HttpEnv) (hretry : e.retry = pk.retries)
    (opts : CloneOpts) (prior : Bytes) (seeds : List Bytes)
    (a : Archive) (src : Bytes) (cks : List Bytes)
    (hserve : e.serve = honestServe archive)
    (hat : ∀ off size, ∃ frags rest, e.atScript off size = Resp.full frags :: rest)
    (hinit : tryInit H features (honestReadAt archive) = .ok a) (hd : Describes H a src cks)
    (hs : Stored H decomp a archive)
    (hpin : ∀ pin, opts.headerPin = some pin → pin = a.headerChecksum)
    (hdev : opts.blockDev = true → src.length ≤ prior.length)
    (hbad : (e.chunksScript.filter (fun r => match r with | .full _ => false | .part _ _ cut => cut | .refuse => true)).length ≤ pk.retries)
    (hnoend : ∀ r ∈ e.chunksScript, ∀ n frags, r ≠ Resp.part n frags false)
    (hlen : a.chunks.length ≤
      (e.chunksScript.filter (fun r => match r with | .full _ => true | _ => false)).length) :
    pk.retries < 2 ^ 32 ∧
    (let r := Clone.run H decomp features e.readAt e.readChunks opts prior seeds
     (r.result = .ok ∧ setLen r.output src.length = src ∧ (opts.blockDev = false → r.output = src)) ∨
       Collision H a.hashLength cks) :=
  ⟨(Proofs.parseClone_ok ka pk hpk).2.2.2.2.2.2.2,
   Proofs.clone_http_complete_budget H hH decomp features archive e opts prior seeds a src cks hserve hat hinit hd hs hpin hdev
     (hretry ▸ hbad) hnoend hlen⟩

end Bita.Props.C08
