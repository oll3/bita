/-
  C09 — chunking is a pure, read-independent function following the rolling-hash rule.
-/
import Bita.Model.Chunker
import Bita.Spec.Chunking
import Bita.Spec.Tiling
import Bita.Proofs.ChunkStream
import Bita.Proofs.HashWindow
import Bita.Proofs.ChunkRule
import Bita.Proofs.SpecChunks

namespace Bita.Props.C09
open Bita Bita.Spec

/-- **Read independence.**  For every valid configuration, every source and every read script
that delivers the whole source and then observes its end - any fragment sizes, any number of
`Pending`s anywhere (each re-enters the chunker on an unchanged buffer) - the chunk sequence
is the one obtained when everything arrives in a single read. -/
theorem stream_independent_of_delivery (cfg : Config) (hv : cfg.Valid) (data : Bytes)
    (script : List Rd) (hc : Complete script data.length = true) :
    chunkStream cfg data script = chunkAll cfg data :=
  Proofs.stream_independent_of_delivery cfg hv data script hc

/-- ... and a script that stops early has only produced a prefix of it. -/
theorem stream_prefix (cfg : Config) (hv : cfg.Valid) (data : Bytes) (script : List Rd) :
    ∃ rest, chunkAll cfg data = chunkStream cfg data script ++ rest :=
  Proofs.stream_prefix cfg hv data script

/-- **The rule.**  The chunker model computes exactly the pure specification: a boundary at the
first length ≥ max(min,1) (BuzHash: and past the warm-up, I1) at which the hash *of the
trailing window* has all filter bits set, else at the maximum size, else the tail. -/
theorem chunkAll_eq_specChunks (cfg : Config) (hv : cfg.Valid) (data : Bytes) :
    chunkAll cfg data = specChunks cfg data :=
  Proofs.chunkAll_eq_specChunks cfg hv data

/-- C09 in one statement: under every complete delivery the chunks are those of the rule. -/
theorem chunks_follow_rule (cfg : Config) (hv : cfg.Valid) (data : Bytes)
    (script : List Rd) (hc : Complete script data.length = true) :
    chunkStream cfg data script = specChunks cfg data := by
  rw [stream_independent_of_delivery cfg hv data script hc, chunkAll_eq_specChunks cfg hv data]

/-- The rolling hashes are functions of the trailing window only, in closed form.
RollSum: after feeding any byte sequence into a fresh hasher of window `n`. -/
theorem rollsum_is_window_function (n : Nat) (hn : 1 ≤ n) (hist : Bytes) :
    (hist.foldl RollSum.input (RollSum.new n)).sum
      = rollsumOf (winAt n hist hist.length) :=
  Proofs.rollsum_is_window_function n hn hist

/-- BuzHash: after the warm-up (`init` for the first `n` bytes) and any further input, with the
repeat-skip optimisation in place. -/
theorem buzhash_is_window_function (n : Nat) (hn : 1 ≤ n) (hist : Bytes) (hlen : n ≤ hist.length) :
    (hist.foldl (fun h b => if h.full then h.input b else h.init b) (BuzHash.new n)).sum
      = buzOf (winAt n hist hist.length) :=
  Proofs.buzhash_is_window_function n hn hist hlen

/-- **Tiling.**  Offsets are contiguous from 0, no chunk is empty, the lengths add up to the
input - so the concatenation of the chunks' bytes is the input. -/
theorem chunks_tile (cfg : Config) (hv : cfg.Valid) (data : Bytes) :
    Tiles (specChunks cfg data) 0 data.length :=
  Proofs.specChunks_tile cfg hv data

theorem tiles_concat (data : Bytes) (cs : List (Nat × Nat)) (s : Nat)
    (h : Tiles cs s data.length) :
    (cs.map (fun c => slice data c.1 c.2)).flatten = data.drop s :=
  Proofs.tiles_concat data cs s h

/-- **Size bounds.**  Every chunk except the last has `max(min,1) ≤ len ≤ max`
(fixed size: exactly `n`). -/
theorem chunk_size_bounds (cfg : Config) (hv : cfg.Valid) (data : Bytes) :
    ∀ c ∈ allButLast (specChunks cfg data),
      match cfg with
      | .rollsum f => max f.minSize 1 ≤ c.2 ∧ c.2 ≤ f.maxSize
      | .buzhash f => max f.minSize 1 ≤ c.2 ∧ c.2 ≤ f.maxSize
      | .fixed n => c.2 = n := by
  intro c hc
  rw [Proofs.SpecChunks.specChunks_eq] at hc
  -- all chunks but the last are cuts of the rule, and start inside the data
  have ⟨hm, hd⟩ := Proofs.SpecChunks.cutsFrom_mem (cut := Proofs.SpecChunks.cutOf cfg data)
    (len := data.length) (k := data.length + 1) (s := 0)
  have hb := Proofs.SpecChunks.cutOf_bounds cfg hv data c.1 c.2
    (hm c (List.dropLast_subset _ hc)).2.1 (hd c hc)
  cases cfg <;> exact hb.2.2

/-! Non-vacuity: a concrete valid configuration and stream with a boundary by hash, a cut at the
maximum and a tail, under a fragmented delivery with a `Pending`. -/
example :
    let cfg := Config.rollsum ⟨2, 2, 8, 3⟩
    let data : Bytes := (List.range 20).map (fun i => UInt8.ofNat (i + 1))
    cfg.Valid ∧ Complete [.bytes 3, .pending, .bytes 5, .bytes 100, .bytes 1] data.length = true ∧
    chunkStream cfg data [.bytes 3, .pending, .bytes 5, .bytes 100, .bytes 1] = [(0, 8), (8, 8), (16, 4)] ∧
    specChunks cfg data = [(0, 8), (8, 8), (16, 4)] := by
  decide +kernel

example :
    let cfg := Config.buzhash ⟨2, 2, 8, 3⟩
    let data : Bytes := [5, 9, 250, 0, 0, 0, 0, 7, 7, 7, 7, 7, 1, 2, 3, 4, 5, 6, 7, 8, 9]
    cfg.Valid ∧ specChunks cfg data = chunkAll cfg data ∧ (specChunks cfg data).length ≥ 3 := by
  decide +kernel

end Bita.Props.C09
