/-
  C07 — adjacent missing chunks are fetched with a single range request.
-/
import Bita.Model.Readers
import Bita.Spec.Runs
import Bita.Proofs.Http
import Bita.Proofs.ReaderEnv
import Bita.Model.Compress

namespace Bita.Props.C07
open Bita Bita.Spec

/-- A server that answers every request with exactly the bytes of the requested range. -/
def honest (data : Bytes) (off size : Nat) : Bytes := slice data off size

/-- `maximalRuns` really is the decomposition into maximal adjacent runs: it loses nothing,
every run is non-empty and contiguous, and no two neighbouring runs could be merged. -/
theorem maximalRuns_spec (cs : List ChunkOffset) :
    (maximalRuns cs).flatten = cs ∧
    (∀ r ∈ maximalRuns cs, r ≠ [] ∧ Contiguous r) ∧
    Separated (maximalRuns cs) :=
  Proofs.maximalRuns_spec cs

/-- **C07.** In the absence of transfer failures (every response carries the whole requested
body, in *any* fragmentation), the range requests issued by the HTTP chunk reader for a list of
chunks are exactly the maximal runs of adjacent chunks, in order, one request per run, and
the stream yields exactly the requested chunks. No bound on the number or size of chunks. -/
theorem requests_are_maximal_runs (data : Bytes) (retry : Nat) (chunks : List ChunkOffset)
    (script : List Resp)
    (hsize : ∀ c ∈ chunks, 1 ≤ c.size)
    (hin : ∀ c ∈ chunks, c.stop ≤ data.length)
    (hfull : ∀ r ∈ script, ∃ fr, r = Resp.full fr)
    (hlen : (maximalRuns chunks).length ≤ script.length) :
    httpReadChunks (honest data) retry script chunks =
      ⟨chunks.map (fun c => Item.chunk (slice data c.offset c.size)),
       (maximalRuns chunks).map runRequest⟩ :=
  Proofs.requests_are_maximal_runs data retry chunks script hsize hin hfull hlen

/-- The bounds of the request for a run are the first byte of its first chunk and the last byte
of its last chunk, and that is what the `Range` header says (inclusive end). -/
theorem runRequest_bounds (r : List ChunkOffset) (a b : ChunkOffset)
    (hc : Contiguous r) (hsize : ∀ c ∈ r, 1 ≤ c.size)
    (ha : r.head? = some a) (hb : r.getLast? = some b) :
    (runRequest r).1 = a.offset ∧ (runRequest r).1 + (runRequest r).2 - 1 = b.stop - 1 ∧
    rangeHeader (runRequest r).1 (runRequest r).2 = s!"bytes={a.offset}-{b.stop - 1}" :=
  Proofs.runRequest_bounds r a b hc hsize ha hb

/-! Non-vacuity: a concrete list with two runs (one of two chunks) under a fragmenting server. -/
example :
    let data : Bytes := (List.range 40).map (·.toUInt8)
    let chunks : List ChunkOffset := [⟨3, 4⟩, ⟨7, 2⟩, ⟨20, 5⟩]
    (httpReadChunks (honest data) 0 [.full [1, 2], .full []] chunks).reqs = [(3, 6), (20, 5)] ∧
    maximalRuns chunks = [[⟨3, 4⟩, ⟨7, 2⟩], [⟨20, 5⟩]] := by
  decide +kernel

/-- **C07 for a whole clone** (C06 ∘ C07).  The archive is served by an honest server and no
transfer fails (every response complete, in any fragmentation); any prior output, in place or
not, any seeds.  Everything a successful clone puts on the wire, in order: one request for the
pre-header, one for the rest of the header, and then exactly one request per maximal run of
adjacent *missing* chunks (`Proofs.missingRanges`: the descriptors, in descriptor order, whose key
neither the scan of the prior output nor the scan of any seed found) - or a collision of the
truncated strong hash with a genuine source chunk is exhibited. -/
theorem clone_over_http_requests_runs_of_missing_chunks (H : Bytes → Bytes) (hH : ∀ x, (H x).length = 64)
    (decomp : Nat → Bytes → Nat → Option Bytes) (features : List Nat)
    (archive : Bytes) (e : HttpEnv) (opts : CloneOpts) (prior : Bytes) (seeds : List Bytes)
    (a : Archive) (src : Bytes) (cks : List Bytes)
    (hserve : e.serve = honestServe archive)
    (hat : ∀ off size, ∃ frags rest, e.atScript off size = Resp.full frags :: rest)
    (hinit : tryInit H features (honestReadAt archive) = .ok a) (hd : Describes H a src cks)
    (hs : Stored H decomp a archive)
    (hfull : ∀ r ∈ e.chunksScript, ∃ frags, r = Resp.full frags)
    (hlen : a.chunks.length ≤ e.chunksScript.length) :
    let r := Clone.run H decomp features e.readAt e.readChunks opts prior seeds
    r.result = .ok →
      r.requests.flatMap e.wire =
        [(0, Gen.preHeaderSize), (Gen.preHeaderSize, a.headerSize - Gen.preHeaderSize)] ++
          (maximalRuns (Proofs.missingRanges H a opts prior seeds)).map runRequest ∨
      Collision H a.hashLength cks :=
  Proofs.clone_http_wire H hH decomp features archive e opts prior seeds a src cks hserve hat hinit hd hs hfull hlen

/-! Non-vacuity: a five-chunk archive cloned over HTTP with a seed that holds the second and the
fourth chunk: three chunk requests (chunks 1, 3 and 5 are not adjacent), after the two for the
header. -/
def toyH (x : Bytes) : Bytes := (x ++ List.replicate 64 0).take 64

example :
    let src : Bytes := [1, 2, 3, 4, 5, 6, 7, 8, 9, 10, 11, 12, 13]
    let archive := createArchive toyH "lib" id ⟨.fixed 3, 8, none, []⟩ src
    let e : HttpEnv := ⟨honestServe archive, 0, fun _ _ => [.full [1, 2]], [.full [2], .full [], .full [1], .full [], .full []]⟩
    let r := Clone.run toyH (fun _ b _ => some b) [] e.readAt e.readChunks {} [9, 9] [[4, 5, 6, 0, 0, 0, 10, 11, 12]]
    r.result = .ok ∧ r.output = src ∧
    r.requests.flatMap e.wire = [(0, 14), (14, 253), (267, 3), (273, 3), (279, 1)] := by
  decide +kernel

end Bita.Props.C07
