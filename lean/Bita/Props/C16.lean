/-
  C16 — clone writes no file but the output; compress leaves only the archive.

  The statement about the real process is an observation (strace of every open / creat / unlink /
  rename / truncate in every mode, directory listings before and after) - for this property the
  observation *is* the tie; the theorems add that no mode was forgotten in the model and that
  the facts read from the source are the expected ones.
-/
import Bita.Proofs.CliFs

namespace Bita.Props.C16
open Bita Bita.Gen Bita.Proofs

/-- Seeds and archive are opened with `File::open`, clone_cmd.rs contains no remove / rename /
create-dir / copy call, and the steps are in the order the model assumes. -/
theorem facts_as_expected : FactsAsExpected := factsAsExpected

/-- **T1.**  For every mode (any flags, pin, seeds, archive, prior file system): every
file-system operation of a clone is a read-only open or concerns the output path, and nothing
is removed. -/
theorem clone_ops_confined (H : Bytes → Bytes) (decomp : Nat → Bytes → Nat → Option Bytes)
    (c : CloneCmd) (fs : Fs) :
    ∀ op ∈ (Cli.clone H decomp c fs).ops,
      (FsOp.isReadOnly op = true ∨ FsOp.path op = c.output) ∧ (∀ p, op ≠ FsOp.unlink p) :=
  Proofs.clone_ops_confined H decomp c fs

/-- ... and no path other than the output changes or appears. -/
theorem clone_fs_confined (H : Bytes → Bytes) (decomp : Nat → Bytes → Nat → Option Bytes)
    (c : CloneCmd) (fs : Fs) (p : String) (hp : p ≠ c.output) :
    (Cli.clone H decomp c fs).fs.get p = fs.get p :=
  Proofs.clone_fs_confined H decomp c fs p hp

/-- **T2.**  A successful CLI compress ends in the initial file system plus exactly the archive
(the temp file - `c.temp`, which cli.rs derives from the output path by replacing its extension
with `..tmp`, see `tempPathOf` and the CLI-level runs - created, written,
re-opened read-only and removed), and the archive is the one of the sequential model. -/
theorem compress_leaves_only_archive (H : Bytes → Bytes) (comp : Bytes → Bytes) (c : CompressCmd) (fs : Fs)
    (htmp : fs.get (c.temp) = none)
    (hdistinct : c.temp ≠ c.output ∧ c.input ≠ c.output ∧ c.input ≠ c.temp)
    (hflush : cliTempFlushedBeforeReturn = true) :
    let r := Cli.compress H comp c fs
    r.ok = true →
      (∀ p, p ≠ c.output → r.fs.get p = fs.get p) ∧
      (∃ src, (fs.get c.input).map (·.data) = some src ∧
        r.fs.get c.output = some (.regular (createArchive H "cli" comp c.opts src))) :=
  Proofs.compress_leaves_only_archive H comp c fs htmp hdistinct hflush

/-- A stale temp file left by an earlier, interrupted compress is truncated on open, does not
reach the archive, and is gone afterwards. -/
theorem compress_ignores_stale_temp (H : Bytes → Bytes) (comp : Bytes → Bytes) (c : CompressCmd) (fs : Fs)
    (old : Bytes) (htmp : fs.get c.temp = some (.regular old))
    (hdistinct : c.temp ≠ c.output ∧ c.input ≠ c.output ∧ c.input ≠ c.temp)
    (hflush : cliTempFlushedBeforeReturn = true) :
    let r := Cli.compress H comp c fs
    r.ok = true →
      r.fs.get c.temp = none ∧
      (∃ src, (fs.get c.input).map (·.data) = some src ∧
        r.fs.get c.output = some (.regular (createArchive H "cli" comp c.opts src))) :=
  Proofs.compress_ignores_stale_temp H comp c fs old htmp hdistinct hflush

/-! Non-vacuity. -/
def toyH (x : Bytes) : Bytes := (x ++ List.replicate 64 0).take 64

example :
    let fs : Fs := [("in", .regular [1, 2, 3, 4, 5, 6, 7])]
    let r := Cli.compress toyH id ⟨⟨false, false, false⟩, "in", "d/out.cba", "d/out..tmp", ⟨.fixed 3, 8, none, []⟩⟩ fs
    r.ok = true ∧ r.fs.map (·.1) = ["in", "d/out.cba"] ∧
    r.ops.contains (FsOp.unlink "d/out..tmp") = true := by
  decide +kernel

end Bita.Props.C16
