/-
  C06 — only chunks missing from seeds and prior output are fetched, each once.
-/
import Bita.Proofs.CloneNoJunk
import Bita.Proofs.StepOrder
import Bita.Proofs.Reuse

namespace Bita.Props.C06
open Bita Bita.Spec

/-- **C06.**  A successful clone has asked the archive reader for the pre-header, the rest of the
header and then - in a single `read_chunks` call - exactly the stored ranges of the descriptors,
in descriptor order, each once, whose key neither the scan of the prior output (when it is
used as seed) nor the scan of any seed found.  Nothing else is read from the archive.  The scan
of the output covers the whole output from offset 0 for regular files and block devices alike
(`Clone.run` scans `prior`; that the real scan starts at offset 0 is the extracted fact
`Gen.fileSizeRewinds` plus the CLI-level correspondence).  The only escape is a collision of the
truncated strong hash with a genuine source chunk; colliding junk chunks in the prior output are
irrelevant (`Proofs.Planner.reorderOps_keep`). -/
theorem fetch_exact (H : Bytes → Bytes) (hH : ∀ x, (H x).length = 64)
    (decomp : Nat → Bytes → Nat → Option Bytes) (features : List Nat)
    (readAt : Nat → Nat → Option Bytes) (readChunks : List (Nat × Nat) → List (Option Bytes))
    (opts : CloneOpts) (prior : Bytes) (seeds : List Bytes)
    (a : Archive) (src : Bytes) (cks : List Bytes)
    (hinit : tryInit H features readAt = .ok a) (hd : Describes H a src cks)
    (hitems : ∀ ranges, (readChunks ranges).length = ranges.length) :
    let r := Clone.run H decomp features readAt readChunks opts prior seeds
    r.result = .ok →
      r.requests = [ArchReq.readAt 0 Gen.preHeaderSize,
                    ArchReq.readAt Gen.preHeaderSize (a.headerSize - Gen.preHeaderSize),
                    ArchReq.readChunks ((a.chunks.filter (fun d =>
                      !(Proofs.foundKeys H a opts prior seeds).contains (hashTruncate d.checksum a.hashLength))).map
                      (fun d => (d.archiveOffset, d.archiveSize)))] ∨
      Collision H a.hashLength cks :=
  Proofs.fetch_exact_nojunk H hH decomp features readAt readChunks opts prior seeds a src cks hinit hd hitems

/-- The cursor repair this property depends on must be in the source. -/
theorem scan_starts_at_zero_fact : Gen.fileSizeRewinds = true := by decide

/-! Non-vacuity: with the source itself as prior output of an in-place clone nothing is fetched;
with an unrelated prior output everything is. -/
def toyH (x : Bytes) : Bytes := (x ++ List.replicate 64 0).take 64

example :
    let src : Bytes := [1, 2, 3, 4, 5, 6, 7]
    let archive := createArchive toyH "lib" id ⟨.fixed 3, 8, none, []⟩ src
    let run := fun (prior : Bytes) => (Clone.run toyH (fun _ b _ => some b) [] (honestReadAt archive)
      (honestReadChunks archive) { seedOutput := true } prior []).requests.getLast?
    run src = some (ArchReq.readChunks []) ∧
    ((run [9, 9, 9, 9]).map fun q => match q with
      | .readChunks l => l.length
      | .readAt .. => 0) = some 3 := by
  decide +kernel

/-- The step order of `clone_archive` that `Clone.run` transcribes (scan the output and reorder in
place *before* any seed is used, fetch last, flush before resize), read from the source on every
run: a reordering of the steps in the code breaks this theorem. -/
theorem clone_steps_as_modelled :
    Gen.cloneStepOrder = ["try_init", "banner", "pin", "open_output", "device_check", "scan_output", "reorder",
                          "seed_stdin", "seed_files", "fetch", "flush", "resize", "verify_output"] :=
  Proofs.clone_step_order_fact

/-- **Reuse after an edit** (C10 ∘ C06).  The archive describes the source `P1 ++ S` cut by its own
chunker; one of the seeds is `P2 ++ S` (any other seeds, any prior output); both chunkings place a
boundary at least one hash window into `S`.  Then the one `read_chunks` request of a successful
clone names no descriptor of a source chunk that starts at or after that boundary - or a
collision is exhibited. -/
theorem unchanged_tail_not_fetched (H : Bytes → Bytes) (hH : ∀ x, (H x).length = 64)
    (decomp : Nat → Bytes → Nat → Option Bytes) (features : List Nat)
    (readAt : Nat → Nat → Option Bytes) (readChunks : List (Nat × Nat) → List (Option Bytes))
    (opts : CloneOpts) (prior : Bytes) (seeds : List Bytes)
    (a : Archive) (P1 P2 S : Bytes) (B : Nat)
    (hinit : tryInit H features readAt = .ok a)
    (hd : Describes H a (P1 ++ S) ((chunkAll a.config (P1 ++ S)).map fun c => slice (P1 ++ S) c.1 c.2))
    (hitems : ∀ ranges, (readChunks ranges).length = ranges.length)
    (hroll : ∀ n, a.config ≠ .fixed n)
    (hseed : P2 ++ S ∈ seeds)
    (hB : windowOf a.config ≤ B) (hBS : B ≤ S.length)
    (h1 : IsEnd (chunkAll a.config (P1 ++ S)) (P1.length + B))
    (h2 : IsEnd (chunkAll a.config (P2 ++ S)) (P2.length + B)) :
    let r := Clone.run H decomp features readAt readChunks opts prior seeds
    r.result = .ok →
      (∃ fetched : List Descr,
        r.requests = [ArchReq.readAt 0 Gen.preHeaderSize,
                      ArchReq.readAt Gen.preHeaderSize (a.headerSize - Gen.preHeaderSize),
                      ArchReq.readChunks (fetched.map fun d => (d.archiveOffset, d.archiveSize))] ∧
        (∀ d ∈ fetched, d ∈ a.chunks) ∧
        ∀ c ∈ chunkAll a.config (P1 ++ S), P1.length + B ≤ c.1 →
          ∀ d ∈ fetched, d.checksum ≠ hashTruncate (H (slice (P1 ++ S) c.1 c.2)) a.hashLength) ∨
      Collision H a.hashLength ((chunkAll a.config (P1 ++ S)).map fun c => slice (P1 ++ S) c.1 c.2) :=
  Proofs.unchanged_tail_not_fetched H hH decomp features readAt readChunks opts prior seeds a P1 P2 S B
    hinit hd hitems hroll hseed hB hBS h1 h2

end Bita.Props.C06
