/-
  The option layer composed with the theorems about the modelled core: the checksum *text* of
  `--verify-header` gates the clone (C04), and what `bita compress` is asked for on the command line
  is what the archive records and the reader reports (C11), for every command line the parser
  accepts outside the misuse set.
-/
import Bita.Proofs.Options
import Bita.Proofs.CloneRun
import Bita.Proofs.WriterOpen

namespace Bita.Proofs
open Bita Bita.Options Bita.Proto WriterOpen

instance (c : Config) : Decidable (NotMisuse c) := by
  cases c <;> simp only [NotMisuse] <;> infer_instance

/-- **`--verify-header`, from the text to the gate.**  If the clone gets past the pin (here: it
reports success) with the pin that the option text parsed to, then that text denotes, pair by
pair, exactly the 64 bytes of the archive's header checksum - no prefix, no extension, nothing
dropped (F6 and F15 were both violations of this sentence). -/
theorem verify_header_text_gate (H : Bytes → Bytes) (decomp : Nat → Bytes → Nat → Option Bytes) (features : List Nat)
    (readAt : Nat → Nat → Option Bytes) (readChunks : List (Nat × Nat) → List (Option Bytes))
    (opts : CloneOpts) (prior : Bytes) (seeds : List Bytes) (a : Archive) (text pin : Bytes)
    (hinit : tryInit H features readAt = .ok a)
    (hparse : parseHashSum text = .ok pin) (hp : opts.headerPin = some pin)
    (hok : (Clone.run H decomp features readAt readChunks opts prior seeds).result = .ok) :
    pin = a.headerChecksum ∧ 2 * a.headerChecksum.length = (padded text).length ∧
    ∀ i (hi : i < pin.length), ∃ x y, (padded text)[2 * i]? = some x ∧ (padded text)[2 * i + 1]? = some y ∧
      parseHexPair x y = some pin[i] := by
  have hpin : pin = a.headerChecksum := Decidable.byContradiction fun hne =>
    (clone_pin H decomp features readAt readChunks opts prior seeds a pin hinit hp hne).1 hok
  obtain ⟨_, h2, h3⟩ := parseHashSum_ok text pin hparse
  exact ⟨hpin, hpin ▸ h2, h3⟩

theorem requested_is_reported (H : Bytes → Bytes) (writer : String) (comp : Bytes → Bytes) (o : CompressOpts)
    (src : Bytes) (ha : configAccepted o.cfg = true)
    (hc : o.compression = none ∨ ∃ l, o.compression = some (Gen.enum_CompressionType_BROTLI, l)) :
    ∃ prm c, (dictionaryOf H writer comp o src).1.chunkerParams = some prm ∧
      (dictionaryOf H writer comp o src).1.chunkCompression = some c ∧
      configFromParams prm = .ok o.cfg ∧ prm.chunkHashLength = o.hashLen ∧
      compressionFromDict [] c = .ok o.compression ∧
      (dictionaryOf H writer comp o src).1.metadata = o.metadata := by
  refine ⟨paramsOf o.cfg o.hashLen, _, rfl, rfl, configFromParams_paramsOf _ _ ha, paramsOf_hashLen _ _, ?_, rfl⟩
  rcases hc with hn | ⟨l, hl⟩
  · rw [hn]; exact compressionFromDict_none
  · rw [hl]; exact compressionFromDict_brotli l

/-- **Requested = recorded = reported.**  For every `bita compress` command line the parser accepts
outside the misuse set, the dictionary the CLI writer builds records parameters from which the
reader's conversions give back exactly the configuration, hash length and compression that the
option texts denote (`parseCompress_ok`, `parseChunkerOpts_ok_iff` say what that is). -/
theorem cli_requested_is_reported (a : CompressArgs) (p : CompressParsed) (h : parseCompress a = .ok p)
    (hm : NotMisuse p.cmd.opts.cfg) (H : Bytes → Bytes) (comp : Bytes → Bytes) (src : Bytes) :
    ∃ prm c, (dictionaryOf H "cli" comp p.cmd.opts src).1.chunkerParams = some prm ∧
      (dictionaryOf H "cli" comp p.cmd.opts src).1.chunkCompression = some c ∧
      configFromParams prm = .ok p.cmd.opts.cfg ∧ prm.chunkHashLength = p.cmd.opts.hashLen ∧
      compressionFromDict [] c = .ok p.cmd.opts.compression ∧
      (dictionaryOf H "cli" comp p.cmd.opts src).1.metadata = [] := by
  have ho : OptsOK p.cmd.opts := (cli_options_ok_iff a p h).2 hm
  obtain ⟨prm, c, h1, h2, h3, h4, h5, h6⟩ := requested_is_reported H "cli" comp p.cmd.opts src ho.accepted
    (ho.compr.imp id fun ⟨l, _, hl⟩ => ⟨l, hl⟩)
  obtain ⟨-, -, -, -, hmeta, -⟩ := parseCompress_ok a p h
  exact ⟨prm, c, h1, h2, h3, h4, h5, h6.trans hmeta⟩

end Bita.Proofs
