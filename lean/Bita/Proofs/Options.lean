/-
  Proofs about the option layer (`Bita.Model.Options`): what a size text / a checksum text / a set
  of `bita compress` options denotes when it is accepted, when exactly the parser panics, and that
  whatever is accepted outside an exactly characterised misuse set is a configuration the writer,
  format and reader theorems (C01, C11, C17) apply to (`OptsOK`).
  The two parsers whose panic is an arithmetic overflow get one equation each saying which result
  they give (`parseHumanSize_eval`, `parseChunkerOpts_eq`), which their `_ok_iff` and `_panic_iff` rest on.
-/
import Bita.Model.Options
import Bita.Proofs.Writer

namespace Bita.Options.Parsed
variable {α β : Type}

@[simp] theorem ok_bind (a : α) (f : α → Parsed β) : (ok a).bind f = f a := rfl
@[simp] theorem refused_bind (f : α → Parsed β) : refused.bind f = .refused := rfl
@[simp] theorem panic_bind (f : α → Parsed β) : panic.bind f = .panic := rfl

theorem bind_eq_ok {p : Parsed α} {f : α → Parsed β} {b : β} :
    p.bind f = .ok b ↔ ∃ a, p = .ok a ∧ f a = .ok b := by
  cases p <;> simp

theorem bind_eq_panic {p : Parsed α} {f : α → Parsed β} :
    p.bind f = .panic ↔ p = .panic ∨ ∃ a, p = .ok a ∧ f a = .panic := by
  cases p <;> simp

theorem ite_refused_eq_ok {c : Prop} [Decidable c] {x : Parsed α} {a : α} :
    (if c then .refused else x) = .ok a ↔ ¬ c ∧ x = .ok a := by
  by_cases h : c <;> simp [h]

end Bita.Options.Parsed

namespace Bita.Proofs
open Bita Bita.Options

theorem digitsVal_eq (ds : Txt) (acc : Nat) :
    digitsVal ds acc = if (∀ c ∈ ds, c.isDigit = true) then
      some (ds.foldl (fun a c => a * 10 + (c.toNat - 48)) acc) else none := by
  induction ds generalizing acc with
  | nil => exact (if_pos fun _ h => nomatch h).symm
  | cons c cs ih =>
    unfold digitsVal digitVal
    by_cases hc : c.isDigit = true
    · rw [if_pos hc]
      simp only [ih, List.forall_mem_cons, hc, true_and, List.foldl_cons]
    · rw [if_neg hc, if_neg fun h => hc (h c List.mem_cons_self)]

/-- `parseUnsigned` after the optional sign has been removed. -/
def parseDigits (bits : Nat) (ds : Txt) : Option Nat :=
  match ds with
  | [] => none
  | _ => match digitsVal ds 0 with
    | some v => if v < 2 ^ bits then some v else none
    | none => none

section
variable {bits v : Nat} {s : Txt}

theorem parseDigits_some_iff {ds : Txt} :
    parseDigits bits ds = some v ↔ ds ≠ [] ∧ digitsVal ds 0 = some v ∧ v < 2 ^ bits := by
  cases ds with
  | nil => exact iff_of_false nofun fun h => h.1 rfl
  | cons c cs =>
    unfold parseDigits
    cases digitsVal (c :: cs) 0 with
    | none => exact iff_of_false nofun fun h => nomatch h.2.1
    | some w =>
      simp only [Option.ite_none_right_eq_some, Option.some.injEq]
      exact ⟨fun ⟨h, e⟩ => ⟨nofun, e, e ▸ h⟩, fun ⟨_, e, h⟩ => ⟨e ▸ h, e⟩⟩

theorem parseUnsigned_some_iff :
    parseUnsigned bits s = some v ↔
      ∃ ds, (s = ds ∨ s = '+' :: ds) ∧ ds ≠ [] ∧ digitsVal ds 0 = some v ∧ v < 2 ^ bits := by
  show parseDigits bits (match s with | '+' :: r => r | r => r) = some v ↔ _
  rw [parseDigits_some_iff]
  split
  · rename_i r
    constructor
    · exact fun h => ⟨r, .inr rfl, h⟩
    · rintro ⟨ds, rfl | h, hd⟩
      · -- `+` is not a digit
        exact nomatch hd.2.1
      · cases h; exact hd
  · rename_i hp
    constructor
    · exact fun h => ⟨s, .inl rfl, h⟩
    · rintro ⟨ds, rfl | h, hd⟩
      · exact hd
      · exact absurd h (hp ds)

theorem parseUnsigned_lt (h : parseUnsigned bits s = some v) : v < 2 ^ bits :=
  let ⟨_, _, _, _, hlt⟩ := parseUnsigned_some_iff.mp h
  hlt

theorem digit_not_alpha (c : Char) (h : c.isDigit = true) : c.isAlpha = false := by
  simp only [Char.isDigit, Char.isAlpha, Char.isUpper, Char.isLower, Bool.and_eq_true, decide_eq_true_eq,
    ge_iff_le, UInt32.le_iff_toNat_le, Bool.or_eq_false_iff, Bool.and_eq_false_iff, decide_eq_false_iff_not] at *
  have e9 : ('9' : Char).val.toNat = 57 := by decide
  have eA : ('A' : Char).val.toNat = 65 := by decide
  have ea : ('a' : Char).val.toNat = 97 := by decide
  omega

theorem numeral_no_alpha (h : parseUnsigned bits s = some v) : ∀ c ∈ s, c.isAlpha = false := by
  obtain ⟨ds, hs, _, hd, _⟩ := parseUnsigned_some_iff.mp h
  rw [digitsVal_eq] at hd
  have hna : ∀ c ∈ ds, c.isAlpha = false := fun c hc =>
    digit_not_alpha c ((Option.ite_none_right_eq_some.mp hd).1 c hc)
  rcases hs with rfl | rfl
  · exact hna
  · exact List.forall_mem_cons.mpr ⟨by decide, hna⟩

end

/-- What the theorems below need of the unit table read from the source: every unit starts with a
letter, and looking a listed unit up gives its multiplier (no unit is listed twice). -/
theorem sizeUnits_wellformed :
    ∀ e ∈ Gen.sizeUnits, e.1.findIdx? Char.isAlpha = some 0 ∧ unitMultiplier e.1 = some e.2 := by
  decide

theorem unitMultiplier_eq_some {u : Txt} {m : Nat} : unitMultiplier u = some m ↔ (u, m) ∈ Gen.sizeUnits := by
  refine ⟨fun h => ?_, fun h => (sizeUnits_wellformed _ h).2⟩
  obtain ⟨e, he, rfl⟩ := Option.map_eq_some_iff.mp h
  have hu := List.find?_some he
  obtain rfl : e.1 = u := of_decide_eq_true hu
  exact List.mem_of_find?_eq_some he

theorem parseHumanSize_eval {s num : Txt} {v m : Nat} (hn : parseUnsigned 64 num = some v)
    (hs : (s = num ∧ m = 1) ∨ ∃ u, (u, m) ∈ Gen.sizeUnits ∧ s = num ++ u) :
    parseHumanSize s = if m * v < 2 ^ 64 then .ok (m * v) else .panic := by
  have hna := List.findIdx?_eq_none_iff.mpr (numeral_no_alpha hn)
  unfold parseHumanSize
  rcases hs with ⟨rfl, rfl⟩ | ⟨u, hu, rfl⟩
  · rw [hna, hn, Nat.one_mul, if_pos (parseUnsigned_lt hn)]; rfl
  · -- the text splits where the model splits it: the number has no letter, the unit starts with one
    have hidx : (num ++ u).findIdx? Char.isAlpha = some num.length := by
      rw [List.findIdx?_append, hna, (sizeUnits_wellformed _ hu).1]
      exact congrArg some (Nat.zero_add _)
    rw [hidx]
    simp only [List.take_left, List.drop_left, hn, unitMultiplier_eq_some.mpr hu]

/-- **Size texts.**  A size text is accepted with value `n` iff it is a number (optional `+`,
decimal digits, below 2^64), alone or followed by one of the units of the table, and `n` is the
number times the unit's multiplier and fits 64 bits.  Nothing else is accepted. -/
theorem parseHumanSize_ok_iff (s : Txt) (n : Nat) :
    parseHumanSize s = .ok n ↔
      ∃ num v m, parseUnsigned 64 num = some v ∧ n = m * v ∧ n < 2 ^ 64 ∧
        ((s = num ∧ m = 1) ∨ ∃ u, (u, m) ∈ Gen.sizeUnits ∧ s = num ++ u) := by
  constructor
  · fun_cases parseHumanSize s with
    | case1 =>
      cases hp : parseUnsigned 64 s with
      | none => nofun
      | some v => rintro ⟨⟩; exact ⟨s, n, 1, hp, (Nat.one_mul n).symm, parseUnsigned_lt hp, .inl ⟨rfl, rfl⟩⟩
    | case2 | case3 | case5 => nofun
    | case4 i _ v hp m hm hlt =>
      rintro ⟨⟩
      exact ⟨s.take i, v, m, hp, rfl, hlt,
        .inr ⟨s.drop i, unitMultiplier_eq_some.mp hm, (List.take_append_drop i s).symm⟩⟩
  · rintro ⟨num, v, m, hp, rfl, hlt, hs⟩
    rw [parseHumanSize_eval hp hs, if_pos hlt]

/-- ... and it panics (in a build with overflow checks) iff it is such a number with a unit whose
product does not fit 64 bits. -/
theorem parseHumanSize_panic_iff (s : Txt) :
    parseHumanSize s = .panic ↔
      ∃ num v u m, parseUnsigned 64 num = some v ∧ (u, m) ∈ Gen.sizeUnits ∧ s = num ++ u ∧ 2 ^ 64 ≤ m * v := by
  constructor
  · fun_cases parseHumanSize s with
    | case1 => cases parseUnsigned 64 s <;> nofun
    | case2 | case3 | case4 => nofun
    | case5 i _ v hp m hm hge =>
      exact fun _ => ⟨s.take i, v, s.drop i, m, hp, unitMultiplier_eq_some.mp hm,
        (List.take_append_drop i s).symm, Nat.le_of_not_lt hge⟩
  · rintro ⟨num, v, u, m, hp, hu, rfl, hge⟩
    rw [parseHumanSize_eval hp (.inr ⟨u, hu, rfl⟩), if_neg (Nat.not_lt.mpr hge)]

def nibbleChar (n : Nat) : UInt8 := if n < 10 then UInt8.ofNat (48 + n) else UInt8.ofNat (87 + n)

/-- Lower-case hexadecimal text (as ASCII bytes) of a byte string: what `bita info` prints. -/
def hexText : Bytes → Bytes
  | [] => []
  | b :: bs => nibbleChar (b.toNat / 16) :: nibbleChar (b.toNat % 16) :: hexText bs

/-- The text `hex_str_to_vec` works on: an odd-length text gets a leading `0`. -/
def padded (s : Bytes) : Bytes := if s.length % 2 = 1 then 48 :: s else s

theorem hexDigitVal_lt {b : UInt8} {y : Nat} (h : hexDigitVal b = some y) : y < 16 := by
  have sub_lt {hi : UInt8} (k : Nat) (hb : b ≤ hi) (hk : hi.toNat - k < 16) : b.toNat - k < 16 :=
    Nat.lt_of_le_of_lt (Nat.sub_le_sub_right (UInt8.le_iff_toNat_le.mp hb) k) hk
  revert h
  fun_cases hexDigitVal b with
  | case1 h => exact fun e => Option.some.inj e ▸ sub_lt 48 h.2 (by decide)
  | case2 _ h => exact fun e => Option.some.inj e ▸ sub_lt 87 h.2 (by decide)
  | case3 _ _ h => exact fun e => Option.some.inj e ▸ sub_lt 55 h.2 (by decide)
  | case4 => nofun

theorem parseHexPair_denotes (a b v : UInt8) (h : parseHexPair a b = some v) :
    (a = 43 ∧ ∃ y, hexDigitVal b = some y ∧ v.toNat = y) ∨
    (∃ x y, hexDigitVal a = some x ∧ hexDigitVal b = some y ∧ v.toNat = 16 * x + y) := by
  revert h
  fun_cases parseHexPair a b with
  | case1 ha =>
    intro h
    obtain ⟨y, hy, rfl⟩ := Option.map_eq_some_iff.mp h
    exact .inl ⟨ha, y, hy, UInt8.toNat_ofNat_of_lt' (Nat.lt_trans (hexDigitVal_lt hy) (by decide))⟩
  | case2 _ x y hy hx =>
    rintro ⟨⟩
    -- `16 * x + y < 16 * (x + 1) ≤ 16 * 16`
    exact .inr ⟨x, y, hx, hy, UInt8.toNat_ofNat_of_lt' (Nat.lt_of_lt_of_le
      (Nat.add_lt_add_left (hexDigitVal_lt hy) _) (Nat.mul_le_mul_left 16 (hexDigitVal_lt hx)))⟩
  | case3 => nofun

theorem hexPairs_ok (s v : Bytes) (h : hexPairs s = .ok v) :
    2 * v.length = s.length ∧
    ∀ i (hi : i < v.length), ∃ a b, s[2 * i]? = some a ∧ s[2 * i + 1]? = some b ∧
      parseHexPair a b = some v[i] := by
  fun_induction hexPairs s generalizing v with
  | case1 => cases h; exact ⟨rfl, nofun⟩
  | case2 | case3 | case4 => cases h
  | case5 a b rest hc x hp ih =>
    obtain ⟨vs, hvs, ⟨⟩⟩ := Parsed.bind_eq_ok.mp h
    obtain ⟨h1, h2⟩ := ih vs hvs
    refine ⟨congrArg (· + 2) h1, fun i hi => ?_⟩
    cases i with
    | zero => exact ⟨a, b, rfl, rfl, hp⟩
    -- index `2 * (j + 1)` of `a :: b :: rest` is index `2 * j` of `rest` by computation
    | succ j => exact h2 j (Nat.lt_of_succ_lt_succ hi)

/-- **Checksum texts, soundness.**  An accepted `--verify-header` text denotes the accepted bytes
pair by pair: nothing is cut off, nothing is dropped, at most 64 bytes (F6/F15 at the text level). -/
theorem parseHashSum_ok (s v : Bytes) (h : parseHashSum s = .ok v) :
    v.length ≤ Gen.hashMaxLen ∧ 2 * v.length = (padded s).length ∧
    ∀ i (hi : i < v.length), ∃ a b, (padded s)[2 * i]? = some a ∧ (padded s)[2 * i + 1]? = some b ∧
      parseHexPair a b = some v[i] := by
  obtain ⟨w, hw, hv⟩ := Parsed.bind_eq_ok.mp h
  obtain ⟨hl, hv⟩ := Parsed.ite_refused_eq_ok.mp hv
  cases hv
  exact ⟨Nat.le_of_not_lt hl, hexPairs_ok _ _ hw⟩

theorem nibble_facts : ∀ n, n < 16 →
    isCont (nibbleChar n) = false ∧ hexDigitVal (nibbleChar n) = some n ∧ nibbleChar n ≠ 43 := by
  decide

theorem hexText_length (b : Bytes) : (hexText b).length = 2 * b.length := by
  induction b with
  | nil => rfl
  | cons x xs ih => exact congrArg (· + 2) ih

theorem hexText_nibbles (x : UInt8) :
    isCont (nibbleChar (x.toNat / 16)) = false ∧
    parseHexPair (nibbleChar (x.toNat / 16)) (nibbleChar (x.toNat % 16)) = some x := by
  obtain ⟨hc, hh, h43⟩ := nibble_facts (x.toNat / 16) (Nat.div_lt_of_lt_mul (show x.toNat < 16 * 16 from x.toNat_lt))
  obtain ⟨_, hl, _⟩ := nibble_facts (x.toNat % 16) (Nat.mod_lt _ (by decide))
  refine ⟨hc, ?_⟩
  rw [parseHexPair, if_neg h43, hh, hl]
  exact congrArg some ((congrArg UInt8.ofNat (Nat.div_add_mod x.toNat 16)).trans UInt8.ofNat_toNat)

theorem hexPairs_hexText (b : Bytes) : hexPairs (hexText b) = .ok b := by
  induction b with
  | nil => rfl
  | cons x xs ih =>
    have hb : startsAtBoundary (hexText xs) = true := by
      cases xs with
      | nil => rfl
      | cons y ys => exact congrArg (!·) (hexText_nibbles y).1
    rw [hexText, hexPairs, (hexText_nibbles x).1, hb, if_neg nofun, (hexText_nibbles x).2, ih]
    rfl

/-- **Checksum texts, completeness.**  The hexadecimal text of any checksum of at most 64 bytes is
accepted and denotes it. -/
theorem parseHashSum_hexText (b : Bytes) (h : b.length ≤ Gen.hashMaxLen) :
    parseHashSum (hexText b) = .ok b := by
  unfold parseHashSum hexStrToVec
  rw [if_neg (by rw [hexText_length]; omega), hexPairs_hexText, Parsed.ok_bind, if_neg (Nat.not_lt.mpr h)]

theorem hexPairs_panic (s : Bytes) (h : hexPairs s = .panic) : ∃ c ∈ s, isCont c = true := by
  fun_induction hexPairs s with
  | case1 | case2 | case4 => cases h
  | case3 a b rest hc =>
    simp only [Bool.or_eq_true, Bool.not_eq_true'] at hc
    rcases hc with hc | hc
    · exact ⟨a, by simp, hc⟩
    · cases rest with
      | nil => cases hc
      | cons c cs => exact ⟨c, by simp, by simpa [startsAtBoundary] using hc⟩
  | case5 a b rest hc x hp ih =>
    rcases Parsed.bind_eq_panic.mp h with h | ⟨vs, _, ⟨⟩⟩
    obtain ⟨c, hc, hcc⟩ := ih h
    exact ⟨c, by simp [hc], hcc⟩

/-- The parser panics only on a text that is not ASCII (a string slice that does not end on a
character boundary). -/
theorem parseHashSum_panic (s : Bytes) (h : parseHashSum s = .panic) : ∃ c ∈ s, isCont c = true := by
  rcases Parsed.bind_eq_panic.mp h with h | ⟨w, _, h⟩
  · obtain ⟨c, hc, hcc⟩ := hexPairs_panic _ h
    -- the byte is in the padded text; the padding `0` is not a continuation byte
    have hcs : c ∈ (48 : UInt8) :: s := by
      split at hc
      · exact hc
      · exact List.mem_cons_of_mem _ hc
    rcases List.mem_cons.mp hcs with rfl | hcs
    · exact absurd hcc (by decide)
    · exact ⟨c, hcs, hcc⟩
  · split at h <;> cases h

theorem clz32_of_ne_zero {x : Nat} (h0 : x ≠ 0) : clz32 x = 31 - Nat.log2 x := by
  unfold clz32
  rw [if_neg h0]
  exact Nat.succ_sub_succ 31 _

theorem log2_u32 {x : Nat} (h2 : 2 ≤ x) (hx : x < 2 ^ 32) : ∃ k, Nat.log2 x = k + 1 ∧ k ≤ 30 := by
  have h0 : x ≠ 0 := Nat.ne_of_gt (Nat.lt_of_lt_of_le (by decide) h2)
  obtain ⟨k, hk⟩ := Nat.exists_eq_add_one_of_ne_zero (Nat.ne_of_gt ((Nat.le_log2 h0).mpr h2))
  have hk32 : k + 1 < 32 := hk ▸ (Nat.log2_lt h0).mpr hx
  exact ⟨k, hk, Nat.le_of_lt_succ (Nat.lt_of_succ_lt_succ hk32)⟩

theorem filterBitsFromSize_eq (n : Nat) :
    filterBitsFromSize n =
      if n % 2 ^ 32 < 2 then .panic else .ok (Nat.log2 (n % 2 ^ 32) - 1) := by
  have hx := Nat.mod_lt n (Nat.two_pow_pos 32)
  unfold filterBitsFromSize
  generalize n % 2 ^ 32 = x at hx
  by_cases h0 : x = 0
  · subst h0; rfl
  simp only [clz32_of_ne_zero h0]
  by_cases h : x < 2
  · -- `x = 1`: 31 leading zeros
    rw [if_pos h, Nat.lt_one_iff.mp ((Nat.log2_lt h0).mpr h)]; rfl
  · -- `log2 x = k + 1`: `30 - k` leading zeros, `k` filter bits
    obtain ⟨k, hk, hk30⟩ := log2_u32 (Nat.le_of_not_lt h) hx
    rw [if_neg h, hk, Nat.succ_sub_succ, if_pos (Nat.sub_le _ _), Nat.sub_sub_self hk30, Nat.add_sub_cancel]

theorem ite_ite_same {α : Sort _} {c d : Prop} [Decidable c] [Decidable d] (a b : α) :
    (if c then a else if d then a else b) = if c ∨ d then a else b := by
  by_cases c <;> by_cases d <;> simp [*]

theorem ite_of_iff_not {α : Sort _} {c d : Prop} [Decidable c] [Decidable d] (h : c ↔ ¬ d) (a b : α) :
    (if c then a else b) = if d then b else a := by
  by_cases hd : d <;> simp [h, hd]

theorem parseChunkerOpts_eq (avg mn mx w : Nat) :
    parseChunkerOpts avg mn mx w =
      if avg % 2 ^ 32 < 2 then .panic
      else if mn ≤ avg ∧ avg ≤ mx ∧ mx < 2 ^ 32 ∧ w < 2 ^ 32 then
        .ok ⟨Nat.log2 (avg % 2 ^ 32) - 1, mn, mx, w⟩
      else .refused := by
  unfold parseChunkerOpts
  rw [filterBitsFromSize_eq]
  by_cases hp : avg % 2 ^ 32 < 2
  · rw [if_pos hp, if_pos hp]; rfl
  · rw [if_neg hp, if_neg hp, Parsed.ok_bind, ite_ite_same, ite_ite_same]
    -- the refusals taken together are the negation of the condition (`hp` is of no use to `omega`)
    clear hp
    exact ite_of_iff_not (by omega) _ _

/-- `parse_chunker_opts` accepts exactly `2 <= avg`, `min <= avg <= max < 2^32`, `window < 2^32`; the
filter bits are `log2 avg - 1`, i.e. the recorded target average `2^(bits+1)` is `avg` rounded down
to a power of two; it panics iff `avg (mod 2^32) < 2`. -/
theorem parseChunkerOpts_ok_iff (avg mn mx w : Nat) (f : FilterConfig) :
    parseChunkerOpts avg mn mx w = .ok f ↔
      (2 ≤ avg ∧ mn ≤ avg ∧ avg ≤ mx ∧ mx < 2 ^ 32 ∧ w < 2 ^ 32 ∧
       f = ⟨Nat.log2 avg - 1, mn, mx, w⟩) := by
  -- where the options are accepted `avg ≤ mx < 2^32`, so the cast `avg as u32` changes nothing
  rw [parseChunkerOpts_eq]
  constructor
  · intro h
    split at h
    · cases h
    split at h
    · rename_i hp hc
      cases h
      rw [Nat.mod_eq_of_lt (Nat.lt_of_le_of_lt hc.2.1 hc.2.2.1)] at hp ⊢
      exact ⟨Nat.le_of_not_lt hp, hc.1, hc.2.1, hc.2.2.1, hc.2.2.2, rfl⟩
    · cases h
  · rintro ⟨h1, h2, h3, h4, h5, rfl⟩
    rw [Nat.mod_eq_of_lt (Nat.lt_of_le_of_lt h3 h4), if_neg (Nat.not_lt.mpr h1), if_pos ⟨h2, h3, h4, h5⟩]

theorem parseChunkerOpts_panic_iff (avg mn mx w : Nat) :
    parseChunkerOpts avg mn mx w = .panic ↔ avg % 2 ^ 32 < 2 := by
  rw [parseChunkerOpts_eq]
  by_cases h : avg % 2 ^ 32 < 2
  · rw [if_pos h]; exact iff_of_true rfl h
  · rw [if_neg h]; refine iff_of_false ?_ h; split <;> nofun

theorem parseChunkerOpts_bits {avg mn mx w : Nat} {f : FilterConfig}
    (h : parseChunkerOpts avg mn mx w = .ok f) :
    f.bits ≤ 30 ∧ (1 ≤ f.bits ↔ 4 ≤ avg) ∧ 2 ^ (f.bits + 1) ≤ avg ∧ avg < 2 ^ (f.bits + 2) := by
  obtain ⟨h1, _, h3, h4, _, rfl⟩ := (parseChunkerOpts_ok_iff avg mn mx w f).mp h
  have h0 : avg ≠ 0 := Nat.ne_of_gt (Nat.lt_of_lt_of_le (by decide) h1)
  obtain ⟨k, hk, hk30⟩ := log2_u32 h1 (Nat.lt_of_le_of_lt h3 h4)
  have h2 : 2 ≤ k + 1 ↔ 2 ^ 2 ≤ avg := hk ▸ Nat.le_log2 h0
  have hp : 2 ^ (k + 1) ≤ avg ∧ avg < 2 ^ (k + 1 + 1) := hk ▸ ⟨Nat.log2_self_le h0, Nat.lt_log2_self⟩
  rw [hk, Nat.add_sub_cancel]
  exact ⟨hk30, Nat.succ_le_succ_iff.symm.trans h2, hp⟩

/-- Configurations the command line lets through although no chunker can run them (or the reader
refuses them): a zero window, a BuzHash window above the maximum chunk size, a target average of 2
or 3 (no filter bit), a fixed size of 0.  Everything else it accepts is `OptsOK`. -/
def NotMisuse : Config → Prop
  | .fixed n => 1 ≤ n
  | .rollsum f => 1 ≤ f.window ∧ 1 ≤ f.bits
  | .buzhash f => 1 ≤ f.window ∧ f.window ≤ f.maxSize ∧ 1 ≤ f.bits

theorem rangedU32_ok {lo hi : Nat} {s : Txt} {v : Nat} (h : rangedU32 lo hi s = .ok v) :
    parseUnsigned 63 s = some v ∧ lo ≤ v ∧ v ≤ hi := by
  revert h
  fun_cases rangedU32 lo hi s with
  | case2 _ d hd hr => rintro ⟨⟩; exact ⟨hd, hr⟩
  | case1 | case3 | case4 => nofun

theorem parseCompression_ok {name : Txt} {level : Nat} {c : Compr} (h : parseCompression name level = .ok c) :
    c = none ∨ ∃ l, 1 ≤ l ∧ l ≤ Gen.brotliMaxLevel ∧ c = some (Gen.enum_CompressionType_BROTLI, l) := by
  revert h
  fun_cases parseCompression name level with
  | case1 | case4 => nofun
  | case2 _ hl =>
    rintro ⟨⟩
    exact .inr ⟨level, Nat.le_of_not_lt fun h => hl (.inl h), Nat.le_of_not_lt fun h => hl (.inr h), rfl⟩
  | case3 => rintro ⟨⟩; exact .inl rfl

/-- The shape of a configuration `parse_chunker_config` lets through. -/
def CfgShape : Config → Prop
  | .buzhash f | .rollsum f =>
    f.minSize ≤ f.maxSize ∧ 2 ≤ f.maxSize ∧ f.maxSize < 2 ^ 32 ∧ f.window < 2 ^ 32 ∧ f.bits ≤ 30
  | .fixed n => n < 2 ^ 32

/-- `parse_chunker_config`: the expression of `parseCompress` that builds the configuration. -/
def chunkerConfig (fixed : Option Nat) (algo : Txt) (avg mn mx w : Nat) : Parsed Config :=
  match fixed with
  | some n => if n > 2 ^ 32 - 1 then .refused else .ok (.fixed n)
  | none => (parseChunkerOpts avg mn mx w).bind fun f =>
      .ok (if algo = Gen.txtBuzHash then .buzhash f else .rollsum f)

theorem chunkerConfig_ok {fixed : Option Nat} {algo : Txt} {avg mn mx w : Nat} {cfg : Config}
    (h : chunkerConfig fixed algo avg mn mx w = .ok cfg) : CfgShape cfg := by
  unfold chunkerConfig at h
  cases fixed with
  | some n =>
    obtain ⟨hn, h⟩ := Parsed.ite_refused_eq_ok.mp h
    cases h
    exact Nat.lt_succ_of_le (Nat.le_of_not_lt hn)
  | none =>
    obtain ⟨f, hf, h⟩ := Parsed.bind_eq_ok.mp h
    have hb := (parseChunkerOpts_bits hf).1
    obtain ⟨h1, h2, h3, h4, h5, rfl⟩ := (parseChunkerOpts_ok_iff _ _ _ _ _).mp hf
    cases h
    split <;> exact ⟨Nat.le_trans h2 h3, Nat.le_trans h1 h3, h4, h5, hb⟩

/-- The shape supplies every bound of `Config.Valid` that `NotMisuse` does not mention. -/
theorem CfgShape.valid_iff {cfg : Config} (h : CfgShape cfg) : cfg.Valid ↔ NotMisuse cfg := by
  cases cfg with
  | fixed n => exact Iff.rfl
  | buzhash f =>
    obtain ⟨hmin, -, -, -, hb⟩ := h
    simp only [Config.Valid, FilterConfig.Valid, NotMisuse]
    exact ⟨fun v => ⟨v.1, v.2.1, v.2.2.2.1⟩, fun nm => ⟨nm.1, nm.2.1, hmin, nm.2.2, hb⟩⟩
  | rollsum f =>
    obtain ⟨hmin, h2, -, -, hb⟩ := h
    simp only [Config.Valid, FilterConfig.ValidRoll, NotMisuse]
    exact ⟨fun v => ⟨v.1, v.2.2.2.1⟩, fun nm => ⟨nm.1, Nat.le_trans (by decide) h2, hmin, nm.2, hb⟩⟩

theorem optsOK_iff_notMisuse {o : CompressOpts} (hs : CfgShape o.cfg) (hl : 1 ≤ o.hashLen ∧ o.hashLen ≤ 64)
    (hc : o.compression = none ∨ ∃ l, l < 2 ^ 32 ∧ o.compression = some (Gen.enum_CompressionType_BROTLI, l))
    (hm : o.metadata = []) : OptsOK o ↔ NotMisuse o.cfg := by
  obtain ⟨cfg, hashLen, compr, md⟩ := o
  subst hm
  have hv := hs.valid_iff
  refine ⟨fun ok => hv.mp ok.valid, fun nm =>
    ⟨hv.mpr nm, (configAccepted_iff_valid _).mpr (hv.mpr nm), ?_, hl, hc, nofun, .nil⟩⟩
  cases cfg with
  | fixed n => exact hs
  | buzhash f | rollsum f => exact ⟨hs.2.2.1, Nat.lt_of_le_of_lt hs.1 hs.2.2.1, hs.2.2.2.1⟩

/-- What an accepted `bita compress` command line hands on, as a whole. -/
theorem parseCompress_eq_ok {a : CompressArgs} {p : CompressParsed} (h : parseCompress a = .ok p) :
    ∃ cfg hashLen compr buffers,
      CfgShape cfg ∧ (Gen.cliHashLengthMin ≤ hashLen ∧ hashLen ≤ Gen.hashMaxLen) ∧
      (compr = none ∨
        ∃ l, 1 ≤ l ∧ l ≤ Gen.brotliMaxLevel ∧ compr = some (Gen.enum_CompressionType_BROTLI, l)) ∧
      p = { cmd := { flags := ⟨a.force, false, false⟩, input := a.input.getD "", output := a.output,
                     temp := tempPathOf a.output, opts := ⟨cfg, hashLen, compr, []⟩ },
            stdin := a.input.isNone, buffers := buffers } := by
  simp only [parseCompress, Parsed.bind_eq_ok, Parsed.ite_refused_eq_ok] at h
  obtain ⟨avg, -, mn, -, mx, -, algo, -, w, -, fixed, -, level, -, cname, -, hashLen, hhl, buffers, -, -,
    cfg, hcfg, compr, hcompr, h⟩ := h
  exact ⟨cfg, hashLen, compr, buffers, chunkerConfig_ok hcfg, (rangedU32_ok hhl).2, parseCompression_ok hcompr,
    (Parsed.ok.inj h).symm⟩

theorem parseCompress_ok (a : CompressArgs) (p : CompressParsed) (h : parseCompress a = .ok p) :
    p.cmd.output = a.output ∧ p.cmd.temp = tempPathOf a.output ∧ p.cmd.flags = ⟨a.force, false, false⟩ ∧
    p.stdin = a.input.isNone ∧ p.cmd.opts.metadata = [] ∧
    Gen.cliHashLengthMin ≤ p.cmd.opts.hashLen ∧ p.cmd.opts.hashLen ≤ Gen.hashMaxLen ∧
    (p.cmd.opts.compression = none ∨ ∃ l, 1 ≤ l ∧ l ≤ Gen.brotliMaxLevel ∧
      p.cmd.opts.compression = some (Gen.enum_CompressionType_BROTLI, l)) ∧
    (match p.cmd.opts.cfg with
      | .buzhash f | .rollsum f =>
        f.minSize ≤ f.maxSize ∧ 2 ≤ f.maxSize ∧ f.maxSize < 2 ^ 32 ∧ f.window < 2 ^ 32 ∧ f.bits ≤ 30
      | .fixed n => n < 2 ^ 32) := by
  obtain ⟨_, _, _, _, hs, hl, hc, rfl⟩ := parseCompress_eq_ok h
  exact ⟨rfl, rfl, rfl, rfl, rfl, hl.1, hl.2, hc, hs⟩

/-- **The command line hands the writer only configurations the theorems cover** - except for the
misuse set, which is characterised exactly: for an accepted command line, `OptsOK` (the hypothesis
of `C01.compress_conforms`, `C01.roundtrip`, `C01.cli_roundtrip` ...) holds iff the
configuration is not in it.  In particular every size fits the 32-bit field it is recorded in
(F21), and the hash length is one the reader accepts (F20). -/
theorem cli_options_ok_iff (a : CompressArgs) (p : CompressParsed) (h : parseCompress a = .ok p) :
    OptsOK p.cmd.opts ↔ NotMisuse p.cmd.opts.cfg := by
  obtain ⟨-, -, -, -, hm, hl4, hl64, hc, hs⟩ := parseCompress_ok a p h
  exact optsOK_iff_notMisuse hs ⟨Nat.le_trans (by decide) hl4, hl64⟩
    (hc.imp_right (Exists.imp fun l hl => ⟨Nat.lt_of_le_of_lt hl.2.1 (by decide), hl.2.2⟩)) hm

theorem pinValue_ok {t v : Bytes} (h : pinValue t = .ok v) : parseHashSum t = .ok v := by
  unfold pinValue at h
  split at h
  · cases h
  · exact h

/-- What an accepted `bita clone` command line hands on: the output, the three flags and the archive
exactly as given; the seed files are the `--seed` values other than `-`, in the order given, and stdin
is a seed iff `-` is among them; a `--verify-header` text that is given becomes a pin (never "no pin"). -/
theorem parseClone_ok (a : CloneArgs) (p : CloneParsed) (h : parseClone a = .ok p) :
    p.cmd.output = a.output ∧ p.cmd.archivePath = a.archive ∧
    p.cmd.flags = ⟨a.force, a.seedOutput, a.verifyOutput⟩ ∧
    p.cmd.seedPaths = a.seeds.filter (· ≠ "-") ∧ p.seedStdin = a.seeds.contains "-" ∧
    (a.verifyHeader = none → p.cmd.pin = none) ∧
    (∀ t, a.verifyHeader = some t → ∃ v, p.cmd.pin = some v ∧ parseHashSum t = .ok v) ∧
    p.retries < 2 ^ 32 := by
  simp only [parseClone, Parsed.bind_eq_ok] at h
  obtain ⟨pin, hpin, -, -, retries, hret, delay, -, timeout, -, buffers, -, h⟩ := h
  have hr : retries < 2 ^ 32 := by
    split at hret
    · cases hret; decide
    · exact Nat.lt_of_le_of_lt (rangedU32_ok hret).2.2 (by decide)
  split at h
  · cases h
  · cases h
  · cases h
    refine ⟨rfl, rfl, rfl, rfl, rfl, ?_⟩
    generalize a.verifyHeader = vh at hpin ⊢
    cases vh with
    | none => cases hpin; exact ⟨fun _ => rfl, nofun, hr⟩
    | some t =>
      obtain ⟨v, hv, ⟨⟩⟩ := Parsed.bind_eq_ok.mp hpin
      exact ⟨nofun, fun _ ht => Option.some.inj ht ▸ ⟨v, rfl, pinValue_ok hv⟩, hr⟩

end Bita.Proofs
