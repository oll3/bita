/-
  The order of the steps of `clone_archive` (src/clone_cmd.rs) and `compress_cmd` as read from the
  source on every run (`Gen.cloneStepOrder`, `Gen.compressStepOrder`).  `Clone.run`, `Cli.clone`
  and `Cli.compress` are written for exactly this order; the theorems about them are theorems
  about the code only while these facts hold, so every property that rests on `Clone.run`
  re-checks them.
-/
import Bita.Gen.Facts

namespace Bita.Proofs
open Bita.Gen

theorem clone_step_order_fact :
    cloneStepOrder = ["try_init", "banner", "pin", "open_output", "device_check", "scan_output", "reorder",
                      "seed_stdin", "seed_files", "fetch", "flush", "resize", "verify_output"] :=
  rfl

theorem compress_step_order_fact :
    compressStepOrder = ["open_output", "chunk_input", "build_header", "write_header", "copy_temp",
                         "remove_temp", "print_info"] :=
  rfl

end Bita.Proofs
