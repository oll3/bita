/-
  Reading encoded fields back: the varint round trip, `parseField` / `parseMessage` on an encoded
  field (`ParsesTo`), and `Decodes`, which follows an encoded piece through parsing and merging at
  once.
-/
import Bita.Model.Proto

namespace Bita.Proofs
open Bita Bita.Proto

theorem encodeVarint_lt (n : Nat) (h : n < 128) : encodeVarint n = [UInt8.ofNat n] := by
  rw [encodeVarint]; simp [h]

theorem encodeVarint_ge (n : Nat) (h : ¬ n < 128) :
    encodeVarint n = UInt8.ofNat (n % 128 + 128) :: encodeVarint (n / 128) := by
  rw [encodeVarint]; simp [h]

theorem encodeVarint_ne_nil (n : Nat) : encodeVarint n ≠ [] := by
  by_cases h : n < 128
  · simp [encodeVarint_lt n h]
  · simp [encodeVarint_ge n h]

theorem toNat_ofNat_lt (v : Nat) (h : v < 256) : (UInt8.ofNat v).toNat = v :=
  UInt8.toNat_ofNat_of_lt' h

private theorem recombine (n p : Nat) : n % 128 * p + n / 128 * (p * 128) = n * p := by
  rw [Nat.mul_comm p, ← Nat.mul_assoc, ← Nat.add_mul, Nat.mod_add_div']

theorem decodeVarintAux_last (fuel n shift acc : Nat) (rest : Bytes) (h : n < 128)
    (h10 : fuel = 0 → n < 2) :
    decodeVarintAux (fuel + 1) shift acc (encodeVarint n ++ rest) = some (acc + n * 2 ^ shift, rest) := by
  rw [encodeVarint_lt n h, List.singleton_append, decodeVarintAux, toNat_ofNat_lt n (by omega),
    if_neg (by omega), if_pos h]

/-- Seven bits a byte and, in the tenth (no fuel after it), one: hence `2 * 128 ^ fuel`. -/
theorem decodeVarintAux_encode (fuel : Nat) : ∀ (n shift acc : Nat) (rest : Bytes), n < 2 * 128 ^ fuel →
    decodeVarintAux (fuel + 1) shift acc (encodeVarint n ++ rest) = some (acc + n * 2 ^ shift, rest) := by
  induction fuel with
  | zero => exact fun n _ _ rest hn => decodeVarintAux_last 0 n _ _ rest (by omega) fun _ => hn
  | succ k ih =>
    intro n shift acc rest hn
    by_cases h : n < 128
    · exact decodeVarintAux_last _ n _ _ rest h nofun
    · rw [encodeVarint_ge n h, List.cons_append, decodeVarintAux, toNat_ofNat_lt _ (by omega),
        if_neg (by omega), if_neg (by omega), ih _ _ _ rest (by omega),
        Nat.add_sub_cancel, Nat.pow_add, Nat.add_assoc, recombine n (2 ^ shift)]

theorem varint_roundtrip (n : Nat) (hn : n < 2 ^ 64) (rest : Bytes) :
    decodeVarint (encodeVarint n ++ rest) = some (n, rest) := by
  -- ten bytes: `2 * 128 ^ 9 = 2 ^ 64`
  have := decodeVarintAux_encode 9 n 0 0 rest hn
  simpa [decodeVarint] using this

abbrev Field := Nat × Option WireVal

theorem decodeVarint_key (t wt : Nat) (ht : t < 2 ^ 29) (hwt : wt < 8) (rest : Bytes) :
    decodeVarint (encodeKey t wt ++ rest) = some (t * 8 + wt, rest) := by
  unfold encodeKey
  apply varint_roundtrip
  omega

theorem key_parts (t wt : Nat) (ht : t < 2 ^ 29) (hwt : wt < 8) :
    ¬ (t * 8 + wt ≥ 2 ^ 32) ∧ (t * 8 + wt) / 8 = t ∧ (t * 8 + wt) % 8 = wt := by omega

/-- A field number the encoders may use for a field the reader takes at its own wire type. -/
abbrev TagOK (fl : List Nat) (t : Nat) : Prop := t ≠ 0 ∧ t < 2 ^ 29 ∧ fl.contains t = false

theorem parseField_varint {fl : List Nat} {t n : Nat} (ht : TagOK fl t) (hn : n < 2 ^ 64) (rest : Bytes) :
    parseField fl (encodeKey t 0 ++ encodeVarint n ++ rest) = some (t, some (.varint n), rest) := by
  obtain ⟨h1, h2, h3⟩ := key_parts t 0 ht.2.1 (by decide)
  rw [List.append_assoc, parseField, decodeVarint_key t 0 ht.2.1 (by decide)]
  dsimp only
  rw [if_neg h1, h2, h3, if_neg ht.1, if_neg (by decide), ht.2.2, if_neg Bool.false_ne_true,
    varint_roundtrip n hn rest]
  rfl

theorem parseField_len {fl : List Nat} {t : Nat} {body : Bytes} (ht0 : t ≠ 0) (ht : t < 2 ^ 29)
    (hn : body.length < 2 ^ 64) (rest : Bytes) :
    parseField fl (encodeKey t 2 ++ encodeVarint body.length ++ body ++ rest)
      = some (t, some (.len body), rest) := by
  obtain ⟨h1, h2, h3⟩ := key_parts t 2 ht (by decide)
  rw [List.append_assoc, List.append_assoc, parseField, decodeVarint_key t 2 ht (by decide)]
  dsimp only
  -- whether or not `fl` forces the field to be read as length-delimited, its own wire type says so
  rw [if_neg h1, h2, h3, if_neg ht0, if_neg (by decide), ite_self,
    varint_roundtrip body.length hn (body ++ rest)]
  simp

theorem parseMessage_nil (fl : List Nat) (fuel : Nat) : parseMessage fl (fuel + 1) [] = some [] := by
  simp [parseMessage]

theorem parseMessage_cons (fl : List Nat) (fuel : Nat) (c : UInt8) (b : Bytes) :
    parseMessage fl (fuel + 1) (c :: b) = (parseField fl (c :: b)).bind fun x =>
      (parseMessage fl fuel x.2.2).map ((x.1, x.2.1) :: ·) := by
  simp only [parseMessage]
  cases parseField fl (c :: b) <;> rfl

theorem parseMessage_mono {fl : List Nat} {f : Nat} {b : Bytes} {fs : List Field}
    (h : parseMessage fl f b = some fs) {f' : Nat} (hf' : fs.length < f') :
    parseMessage fl f' b = some fs := by
  induction f generalizing b fs f' with
  | zero => simp [parseMessage] at h
  | succ f ih =>
    obtain ⟨g, rfl⟩ := Nat.exists_eq_add_one.mpr (Nat.zero_lt_of_lt hf')
    cases b with
    | nil => rw [parseMessage_nil] at h ⊢; exact h
    | cons c b =>
      rw [parseMessage_cons] at h ⊢
      obtain ⟨⟨tag, v, rest⟩, hpf, h⟩ := Option.bind_eq_some_iff.mp h
      obtain ⟨fs', hm, rfl⟩ := Option.map_eq_some_iff.mp h
      rw [hpf, Option.bind_some, ih hm (Nat.lt_of_succ_lt_succ hf')]
      rfl

/-- `b` is a sequence of well-formed fields parsing to `fs` (each field at least one byte),
whatever follows. -/
def ParsesTo (fl : List Nat) (b : Bytes) (fs : List Field) : Prop :=
  fs.length ≤ b.length ∧
  ∀ fuel rest fs', parseMessage fl fuel rest = some fs' →
    parseMessage fl (fuel + fs.length) (b ++ rest) = some (fs ++ fs')

theorem ParsesTo.nil (fl : List Nat) : ParsesTo fl [] [] :=
  ⟨Nat.le_refl _, fun _ _ _ h => by simpa using h⟩

theorem ParsesTo.append {fl : List Nat} {b1 b2 : Bytes} {fs1 fs2 : List Field}
    (h1 : ParsesTo fl b1 fs1) (h2 : ParsesTo fl b2 fs2) : ParsesTo fl (b1 ++ b2) (fs1 ++ fs2) := by
  refine ⟨by rw [List.length_append, List.length_append]; exact Nat.add_le_add h1.1 h2.1, ?_⟩
  intro fuel rest fs' h
  have e2 := h2.2 fuel rest fs' h
  have e1 := h1.2 _ _ _ e2
  rw [List.append_assoc, List.append_assoc, List.length_append, Nat.add_comm fs1.length, ← Nat.add_assoc]
  exact e1

theorem ParsesTo.single {fl : List Nat} {x : Bytes} {tag : Nat} {v : Option WireVal}
    (hx : x ≠ []) (h : ∀ rest, parseField fl (x ++ rest) = some (tag, v, rest)) :
    ParsesTo fl x [(tag, v)] := by
  refine ⟨List.length_pos_iff.mpr hx, ?_⟩
  intro fuel rest fs' hr
  obtain ⟨c, x', rfl⟩ := List.exists_cons_of_ne_nil hx
  rw [List.cons_append, List.length_singleton, parseMessage_cons, ← List.cons_append, h rest,
    Option.bind_some, hr]
  rfl

theorem ParsesTo.parse_eq {fl : List Nat} {b : Bytes} {fs : List Field} (h : ParsesTo fl b fs) :
    parseMessage fl (b.length + 1) b = some fs := by
  have := h.2 1 [] [] (parseMessage_nil fl 0)
  simp only [List.append_nil] at this
  exact parseMessage_mono this (Nat.lt_succ_of_le h.1)

/-- prost decodes a message by folding a merge step `f` over its fields.  `Decodes fl f b d d'` follows one
encoded piece `b` through both halves - reading it as fields, merging those into `d` - so that a message
is handled field by field, in the order `encode` writes them, and the list of fields is never written
down.  Every length prefix inside `b` is the length of a part of `b`: the one bound on `b` (a `Vec<u8>`)
serves them all, and `append` hands it down. -/
def Decodes {α : Type} (fl : List Nat) (f : α → Field → Option α) (b : Bytes) (d d' : α) : Prop :=
  b.length < 2 ^ 64 → ∃ fs, ParsesTo fl b fs ∧ fs.foldlM f d = some d'

section
variable {α : Type} {fl : List Nat} {f : α → Field → Option α} {d d' : α}

theorem Decodes.nil : Decodes fl f [] d d := fun _ => ⟨[], ParsesTo.nil fl, rfl⟩

theorem Decodes.append {b1 b2 : Bytes} {d1 d2 : α}
    (h1 : Decodes fl f b1 d d1) (h2 : Decodes fl f b2 d1 d2) : Decodes fl f (b1 ++ b2) d d2 := by
  intro hl
  rw [List.length_append] at hl
  obtain ⟨fs1, p1, m1⟩ := h1 (Nat.lt_of_le_of_lt (Nat.le_add_right ..) hl)
  obtain ⟨fs2, p2, m2⟩ := h2 (Nat.lt_of_le_of_lt (Nat.le_add_left ..) hl)
  exact ⟨fs1 ++ fs2, p1.append p2, by rw [List.foldlM_append, m1]; exact m2⟩

theorem Decodes.decode {b : Bytes} (h : Decodes fl f b d d') (hl : b.length < 2 ^ 64) :
    (parseMessage fl (b.length + 1) b).bind (fun fs => fs.foldlM f d) = some d' := by
  obtain ⟨fs, p, m⟩ := h hl
  rw [p.parse_eq, Option.bind_some, m]

/-- For a sub-message, in the shape the enclosing message's merge step has. -/
theorem Decodes.decode_map {β : Type} {b : Bytes} {k : α → β} (h : Decodes fl f b d d')
    (hl : b.length < 2 ^ 64) :
    (parseMessage fl (b.length + 1) b).bind (fun fs => (fs.foldlM f d).map k) = some (k d') :=
  Option.map_bind.symm.trans (congrArg (Option.map k) (h.decode hl))

theorem encodeKey_ne_nil (t wt : Nat) : encodeKey t wt ≠ [] := encodeVarint_ne_nil _

/-- The length-delimited kinds ask for `TagOK [] t`, the number in range, only: they are read the
same whether or not `fl` lists `t` (`parseField_len`); a varint (`Decodes.uint`) must be unlisted. -/
theorem Decodes.msg {t : Nat} {body : Bytes} (ht : TagOK [] t)
    (hs : body.length < 2 ^ 64 → f d (t, some (.len body)) = some d') :
    Decodes fl f (encMsg t body) d d' := by
  intro hl
  have hn : body.length < 2 ^ 64 := by
    unfold encMsg at hl; simp only [List.length_append] at hl; omega
  exact ⟨[(t, some (.len body))],
    ParsesTo.single (by simp [encMsg, encodeKey_ne_nil]) (parseField_len ht.1 ht.2.1 hn),
    by simpa using hs hn⟩

/-- `hb`: the caller compares the encoder's own `match` with `Option.elim` (two compiled `match`es on
a variable are not unfolded against each other).  In `hs` a variable `x` stands for the sub-message's
bytes: with the encoder's term in its place the unifier would unfold the parser on it at every branch
of the merge step. -/
theorem Decodes.optMsg {γ : Type} {b : Bytes} (t : Nat) (enc : γ → Bytes) (po : Option γ)
    (set : α → Option γ → α) (ht : TagOK [] t) (hb : b = po.elim [] fun p => encMsg t (enc p))
    (hs : ∀ p, po = some p → ∀ x, enc p = x → x.length < 2 ^ 64 →
      f d (t, some (.len x)) = some (set d (some p)))
    (h0 : set d none = d) (hd : set d po = d') : Decodes fl f b d d' := by
  subst hd hb
  cases po with
  | none => rw [h0]; exact .nil
  | some p => exact .msg ht (hs p rfl _ rfl)

theorem Decodes.repeated {γ : Type} {t : Nat} {enc : γ → Bytes} (acc : α → γ → α) (ht : TagOK [] t) :
    ∀ {l : List γ} {d d' : α},
    (∀ d, ∀ c ∈ l, ∀ x, enc c = x → x.length < 2 ^ 64 → f d (t, some (.len x)) = some (acc d c)) →
    l.foldl acc d = d' → Decodes fl f (l.map fun c => encMsg t (enc c)).flatten d d'
  | [], _, _, _, hd => hd ▸ .nil
  | c :: _, _, _, hs, hd =>
    .append (.msg ht (hs _ c (List.mem_cons_self ..) _ rfl))
      (Decodes.repeated acc ht (fun d c hc => hs d c (List.mem_cons_of_mem _ hc)) hd)

/-- `bytes` / `string`: prost omits the empty value, which the accumulator must then hold already
(`h0`).  The result `d'` is an argument of its own, filled by `rfl`, so that the accumulator type is
known from the goal before the setter is elaborated. -/
theorem Decodes.bytes {t : Nat} {b : Bytes} (set : α → Bytes → α) (ht : TagOK [] t)
    (hs : f d (t, some (.len b)) = some (set d b)) (h0 : set d [] = d) (hd : set d b = d') :
    Decodes fl f (encBytes t b) d d' := by
  subst hd
  unfold encBytes
  cases b with
  | nil => rw [h0]; exact .nil
  | cons x b => exact .msg ht fun _ => hs

/-- `repeated uint32`, packed: one length-delimited field holding the varints, omitted when empty. -/
theorem Decodes.packed {t : Nat} {ns : List Nat} (set : α → List Nat → α) (ht : TagOK [] t)
    (hs : f d (t, some (.len (ns.map encodeVarint).flatten)) = some (set d ns)) (h0 : set d [] = d)
    (hd : set d ns = d') :
    Decodes fl f (if ns.isEmpty then []
      else
        let body := (ns.map encodeVarint).flatten
        encodeKey t 2 ++ encodeVarint body.length ++ body) d d' := by
  subst hd
  cases ns with
  | nil => rw [h0]; exact .nil
  | cons n ns => exact .msg ht fun _ => hs

/-- An `int32` (as its 32-bit pattern) sign-extended to 64 bits, as it travels. -/
def sext32 (v : Nat) : Nat := if v < 2 ^ 31 then v else v + (2 ^ 64 - 2 ^ 32)

theorem sext32_lt (v : Nat) (hv : v < 2 ^ 32) : sext32 v < 2 ^ 64 := by
  unfold sext32
  split <;> omega

theorem u32_sext32 (v : Nat) (hv : v < 2 ^ 32) : u32 (sext32 v) = v := by
  unfold sext32 u32
  split
  · exact Nat.mod_eq_of_lt hv
  · omega

theorem u32_of_lt (v : Nat) (hv : v < 2 ^ 32) : u32 v = v := Nat.mod_eq_of_lt hv

/-- The wire value `w` is read back through `g` (`u32` for the 32-bit types, `id` for `uint64`) as `v`.
`hs` is `rfl` at a concrete field number; prost omits a zero, which the accumulator must then hold
already (`h0`). -/
theorem Decodes.uint {t w v : Nat} (g : Nat → Nat) (set : α → Nat → α) (ht : TagOK fl t)
    (hw : w < 2 ^ 64) (hg : g w = v) (hs : ∀ n, f d (t, some (.varint n)) = some (set d (g n)))
    (h0 : set d (g 0) = d) (hd : set d v = d') : Decodes fl f (encUint t w) d d' := by
  subst hd
  unfold encUint
  split
  · rename_i hz; subst hz; rw [← hg, h0]; exact .nil
  · exact fun _ => ⟨[(t, some (.varint w))],
      ParsesTo.single (by simp [encodeKey_ne_nil]) (parseField_varint ht hw),
      by rw [← hg]; simpa using hs w⟩

theorem Decodes.uint32 {t v : Nat} (set : α → Nat → α) (ht : TagOK fl t) (hv : v < 2 ^ 32)
    (hs : ∀ n, f d (t, some (.varint n)) = some (set d (u32 n))) (h0 : set d (u32 0) = d)
    (hd : set d v = d') : Decodes fl f (encUint t v) d d' :=
  .uint u32 set ht (Nat.lt_trans hv (by decide)) (u32_of_lt v hv) hs h0 hd

theorem Decodes.int32 {t v : Nat} (set : α → Nat → α) (ht : TagOK fl t) (hv : v < 2 ^ 32)
    (hs : ∀ n, f d (t, some (.varint n)) = some (set d (u32 n))) (h0 : set d (u32 0) = d)
    (hd : set d v = d') : Decodes fl f (encInt32 t v) d d' := by
  have hz : sext32 v = 0 ↔ v = 0 := by unfold sext32; split <;> omega
  have e : encInt32 t v = encUint t (sext32 v) := by
    unfold encInt32 encUint
    by_cases h : v = 0
    · rw [if_pos h, if_pos (hz.mpr h)]
    · rw [if_neg h, if_neg (fun h' => h (hz.mp h'))]; rfl
  rw [e]
  exact .uint u32 set ht (sext32_lt v hv) (u32_sext32 v hv) hs h0 hd

end

end Bita.Proofs
