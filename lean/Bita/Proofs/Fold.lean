/-
  Folds whose invariant speaks of the elements gone through so far (the bytes fed to a hasher, the
  chunks a writer has seen).
-/

namespace Bita.Proofs

theorem foldl_fed {σ α} {P : σ → List α → Prop} {f : σ → α → σ}
    (step : ∀ {s fed} b, P s fed → P (f s b) (fed ++ [b])) (bs : List α) :
    ∀ {s fed}, P s fed → P (bs.foldl f s) (fed ++ bs) := by
  induction bs with
  | nil => intro s fed h; simpa using h
  | cons b bs ih =>
    intro s fed h
    simpa using ih (step b h)

end Bita.Proofs
