/-
  What the archive writers produce (C01 T1, C11 T1/T3): layout, descriptor invariants, and that the
  produced bytes are a conforming archive of the source.
-/
import Bita.Proofs.TryInit
import Bita.Proofs.WriterDedup
import Bita.Proofs.WriterOpen

namespace Bita.Proofs
open Bita Bita.Proto Bita.Spec
open WriterDescr WriterOpen

/-- The codec contract assumed for round trips (brotli/zstd/lzma are not modelled). -/
def CodecOK (comp : Bytes → Bytes) (decomp : Nat → Bytes → Nat → Option Bytes) : Prop :=
  ∀ algo x, decomp algo (comp x) x.length = some x

/-- Options a compress run accepts ("valid configuration" of C01). -/
structure OptsOK (o : CompressOpts) : Prop where
  valid : o.cfg.Valid
  accepted : configAccepted o.cfg = true
  u32 : match o.cfg with
    | .buzhash f | .rollsum f => f.maxSize < 2 ^ 32 ∧ f.minSize < 2 ^ 32 ∧ f.window < 2 ^ 32
    | .fixed n => n < 2 ^ 32
  hash_len : 1 ≤ o.hashLen ∧ o.hashLen ≤ 64
  compr : o.compression = none ∨ ∃ l, l < 2 ^ 32 ∧ o.compression = some (Gen.enum_CompressionType_BROTLI, l)
  meta_utf8 : ∀ e ∈ o.metadata, utf8Valid e.1 = true
  meta_sorted : o.metadata.Pairwise (fun a b => (a.1.map (·.toNat)) < (b.1.map (·.toNat)))

theorem OptsOK.maxChunk_lt {o : CompressOpts} (ho : OptsOK o) : maxChunk o.cfg < 2 ^ 32 := by
  have hu := ho.u32
  generalize o.cfg = cfg at hu
  cases cfg with
  | buzhash f | rollsum f => exact hu.1
  | fixed n => exact hu

theorem OptsOK.params_lt {o : CompressOpts} (ho : OptsOK o) {p : ChunkerParameters}
    (hp : paramsOf o.cfg o.hashLen = p) :
    p.chunkFilterBits < 2 ^ 32 ∧ p.minChunkSize < 2 ^ 32 ∧ p.maxChunkSize < 2 ^ 32 ∧
    p.rollingHashWindowSize < 2 ^ 32 ∧ p.chunkHashLength < 2 ^ 32 ∧ p.chunkingAlgorithm < 2 ^ 32 := by
  subst hp
  have hu := ho.u32
  have hv := ho.valid
  have hn : o.hashLen < 2 ^ 32 := Nat.lt_of_le_of_lt ho.hash_len.2 (by decide)
  generalize o.cfg = cfg at hu hv
  have h0 := Nat.two_pow_pos 32
  cases cfg with
  | buzhash f | rollsum f =>
    dsimp only [paramsOf]
    -- `bits ≤ 30` is part of validity
    exact ⟨Nat.lt_of_le_of_lt hv.2.2.2.2 (by decide), hu.2.1, hu.1, hu.2.2, hn, by decide⟩
  | fixed m =>
    dsimp only [paramsOf]
    exact ⟨h0, h0, hu, h0, hn, by decide⟩

theorem OptsOK.compression_recorded {o : CompressOpts} (ho : OptsOK o) (H : Bytes → Bytes)
    (src : Bytes) (us : List Bytes) (order : List Nat) (f : Bytes → Bytes) :
    ∃ cc, (dictOf H o src us order f).chunkCompression = some cc ∧
      cc.compression < 2 ^ 32 ∧ cc.compressionLevel < 2 ^ 32 ∧
      compressionFromDict [] cc = .ok o.compression := by
  unfold dictOf
  rcases ho.compr with hc | ⟨l, hl, hc⟩
  · rw [hc]
    exact ⟨_, rfl, by decide, by decide, compressionFromDict_none⟩
  · rw [hc]
    exact ⟨_, rfl, by show Gen.enum_CompressionType_BROTLI < 2 ^ 32; decide, hl, compressionFromDict_brotli l⟩

def runningOffset (ds : List ChunkDescriptor) (i : Nat) : Nat := ((ds.take i).map (·.archiveSize)).sum

section
variable {H : Bytes → Bytes} {cks us : List Bytes} {order : List Nat}

theorem chunksOf_inj {cfg : Config} {src : Bytes}
    (hinj : ∀ c1 ∈ chunkAll cfg src, ∀ c2 ∈ chunkAll cfg src,
      H (slice src c1.1 c1.2) = H (slice src c2.1 c2.2) → slice src c1.1 c1.2 = slice src c2.1 c2.2) :
    ∀ x ∈ chunksOf cfg src, ∀ y ∈ chunksOf cfg src, H x = H y → x = y := by
  intro x hx y hy h
  obtain ⟨c1, h1, rfl⟩ := List.mem_map.mp hx
  obtain ⟨c2, h2, rfl⟩ := List.mem_map.mp hy
  exact hinj c1 h1 c2 h2 h

theorem order_descr (n : Nat) (f : Bytes → Bytes) (inv : WriterDedup.Inv H cks us order)
    (hinj : ∀ x ∈ cks, ∀ y ∈ cks, H x = H y → x = y) (i : Nat) (hi : i < cks.length) :
    ∃ j cd, order[i]? = some j ∧ (descrFrom H n f 0 us)[j]? = some cd ∧
      cd.sourceSize = cks[i].length ∧ cd.checksum = hashTruncate (H cks[i]) n := by
  obtain ⟨j, u, hj, hu, hH⟩ := inv.idx i hi
  obtain ⟨hjl, rfl⟩ := List.getElem?_eq_some_iff.mp hu
  have he : us[j] = cks[i] := hinj _ (inv.sub _ (List.getElem_mem hjl)) _ (List.getElem_mem hi) hH
  exact ⟨j, _, hj, descrFrom_zero_getElem? hjl, congrArg List.length he, he ▸ rfl⟩

theorem order_sizes (n : Nat) (f : Bytes → Bytes) (inv : WriterDedup.Inv H cks us order)
    (hinj : ∀ x ∈ cks, ∀ y ∈ cks, H x = H y → x = y) :
    (order.map fun i => ((descrFrom H n f 0 us)[i]?.map (·.sourceSize)).getD 0).sum =
      cks.flatten.length := by
  rw [List.length_flatten]
  congr 1
  apply List.ext_getElem (by simpa using inv.len)
  intro i h1 h2
  have hi : i < cks.length := by simpa using h2
  obtain ⟨j, cd, ho, hd, hs, -⟩ := order_descr n f inv hinj i hi
  obtain ⟨_, ho⟩ := List.getElem?_eq_some_iff.mp ho
  simp only [List.getElem_map]
  rw [ho, hd]
  exact hs

end

/-- **Layout** (C11): the archive is the header followed by the stored chunks; the header's
chunk-data offset is the header length (`buildHeader` without an offset); the file ends exactly at
the end of the last stored chunk; descriptors are back-to-back in order, stored size never exceeds
source size; rebuild indexes are valid and their chunk sizes sum to the source size; the options are
recorded verbatim.  For both writers, every source, every valid configuration (`hinj`: no two
different source chunks with the same full strong hash - the dedup table is keyed by the hash). -/
theorem writer_invariants (H : Bytes → Bytes) (writer : String) (hw : writer = "lib" ∨ writer = "cli")
    (comp : Bytes → Bytes) (o : CompressOpts) (hv : o.cfg.Valid) (src : Bytes)
    (hinj : ∀ c1 ∈ chunkAll o.cfg src, ∀ c2 ∈ chunkAll o.cfg src,
      H (slice src c1.1 c1.2) = H (slice src c2.1 c2.2) → slice src c1.1 c1.2 = slice src c2.1 c2.2) :
    let dict := (dictionaryOf H writer comp o src).1
    let stored := (dictionaryOf H writer comp o src).2
    let hdr := buildHeader H dict none
    createArchive H writer comp o src = hdr ++ stored.flatten ∧
    (createArchive H writer comp o src).length = hdr.length + (dict.chunkDescriptors.map (·.archiveSize)).sum ∧
    dict.chunkDescriptors.length = stored.length ∧
    (∀ i (hi : i < dict.chunkDescriptors.length),
      dict.chunkDescriptors[i].archiveOffset = runningOffset dict.chunkDescriptors i ∧
      dict.chunkDescriptors[i].archiveSize ≤ dict.chunkDescriptors[i].sourceSize ∧
      1 ≤ dict.chunkDescriptors[i].sourceSize) ∧
    (∀ i ∈ dict.rebuildOrder, i < dict.chunkDescriptors.length) ∧
    (dict.rebuildOrder.map (fun i => (dict.chunkDescriptors[i]?.map (·.sourceSize)).getD 0)).sum = src.length ∧
    dict.sourceTotalSize = src.length ∧ dict.sourceChecksum = H src ∧
    dict.chunkerParams = some (paramsOf o.cfg o.hashLen) ∧ dict.metadata = o.metadata ∧
    dict.applicationVersion = Gen.pkgVersion.toUTF8.toList := by
  have _ := hw
  have inv := WriterDedup.inv_dedup H (chunksOf o.cfg src)
  have hcks := chunksOf_bounds o.cfg hv src
  have hfle := storedBytes_length_le writer (codecOf o comp)
  unfold createArchive
  rw [dictionaryOf_eq]
  generalize (dedup H (chunksOf o.cfg src)).1 = us, (dedup H (chunksOf o.cfg src)).2 = order at inv ⊢
  generalize storedBytes writer (codecOf o comp) = f at *
  have hsum := order_sizes o.hashLen f inv (chunksOf_inj hinj)
  dsimp only [dictOf]
  have hdl : (descrFrom H o.hashLen f 0 us).length = us.length := descrFrom_length ..
  refine ⟨rfl, ?_, by rw [hdl, List.length_map], ?_, ?_, ?_, rfl, rfl, rfl, rfl, rfl⟩
  · show (_ ++ (us.map f).flatten).length = _ + ((descrFrom H o.hashLen f 0 us).map (·.archiveSize)).sum
    rw [List.length_append, descrFrom_archiveSize, List.length_flatten, List.map_map]
    rfl
  · intro i hi
    have hi' : i < us.length := hdl ▸ hi
    rw [(List.getElem_eq_iff hi).mpr (descrFrom_zero_getElem? hi')]
    refine ⟨?_, hfle _, (hcks _ (inv.sub _ (List.getElem_mem hi'))).1⟩
    rw [runningOffset, List.map_take, descrFrom_archiveSize, ← List.map_take]
    rfl
  · intro i hi
    rw [hdl]
    exact inv.mem_order.mp hi
  · exact chunksOf_flatten o.cfg hv src ▸ hsum

/-- **C01 T1.**  For every source, every valid configuration, hash length, compression setting
and metadata, and for both writers, the bytes produced are a conforming archive of the source
(so that cloning them yields the source, `clone_complete`) - for *any* codec satisfying the
round-trip contract, hence also when a compressed chunk happens to be exactly as long as the
chunk - or two different chunks of the source have the same full strong hash.
Size hypotheses: the archive is shorter than 2^63 bytes (`hfit`: all of it is addressable, so that
the header end, the chunk data offset and every chunk end the reader computes fit 64 bits); the
source length fits u64 (`hsrc`) and the source has at most 2^32 chunks (`hcnt`: the writers store
rebuild indexes `as u32`); the codec never compresses a non-empty chunk to nothing (`hne`). -/
theorem createArchive_conforms (H : Bytes → Bytes) (hH : ∀ x, (H x).length = 64)
    (writer : String) (hw : writer = "lib" ∨ writer = "cli")
    (comp : Bytes → Bytes) (decomp : Nat → Bytes → Nat → Option Bytes) (hcodec : CodecOK comp decomp)
    (hne : ∀ x, x ≠ [] → comp x ≠ [])
    (o : CompressOpts) (ho : OptsOK o) (src : Bytes)
    (hfit : (createArchive H writer comp o src).length < 2 ^ 63)
    (hsrc : src.length < 2 ^ 64) (hcnt : (chunkAll o.cfg src).length ≤ 2 ^ 32) :
    Conforms H decomp [] (createArchive H writer comp o src) src ∨
    (∃ c1 ∈ chunkAll o.cfg src, ∃ c2 ∈ chunkAll o.cfg src,
      slice src c1.1 c1.2 ≠ slice src c2.1 c2.2 ∧ H (slice src c1.1 c1.2) = H (slice src c2.1 c2.2)) := by
  have _ := hw
  refine Classical.or_iff_not_imp_right.mpr fun hcol => ?_
  have hinj := chunksOf_inj (H := H) (cfg := o.cfg) (src := src) fun c1 h1 c2 h2 hh =>
    Decidable.by_contra fun he => hcol ⟨c1, h1, c2, h2, he, hh⟩
  have hv := ho.valid
  obtain ⟨hn1, hn64⟩ := ho.hash_len
  have inv := WriterDedup.inv_dedup H (chunksOf o.cfg src)
  have hcks := chunksOf_bounds o.cfg hv src
  have hmax := ho.maxChunk_lt
  have hflat := chunksOf_flatten o.cfg hv src
  have hfle := storedBytes_length_le writer (codecOf o comp)
  have hfne := fun c => storedBytes_ne_nil writer o hne (c := c)
  have hdec := decodeChunk_stored (H := H) hcodec writer o
  unfold createArchive at hfit ⊢
  rw [dictionaryOf_eq] at hfit ⊢
  generalize (dedup H (chunksOf o.cfg src)).1 = us, (dedup H (chunksOf o.cfg src)).2 = order
    at inv hfit ⊢
  dsimp only at hfit ⊢
  generalize storedBytes writer (codecOf o comp) = f at *
  have hsum := order_sizes o.hashLen f inv hinj
  -- applied to the header before it becomes some bytes `hdr`: afterwards the link is lost
  have hopen := tryInit_buildHeader H hH [] (dictOf H o src us order f)
  have hbl := buildHeader_length H (dictOf H o src us order f) hH
  generalize buildHeader H (dictOf H o src us order f) none = hdr at hopen hbl hfit ⊢
  rw [List.length_append] at hfit
  have hum : usizeMax = 2 ^ 64 - 1 := rfl
  -- the archive is shorter than `2 ^ 63`, so all of it is addressable
  obtain ⟨henc, henc', harch, hdata⟩ : (encodeDictionary (dictOf H o src us order f)).length < 2 ^ 64 ∧
      (encodeDictionary (dictOf H o src us order f)).length + 86 ≤ usizeMax ∧
      hdr.length + (us.map f).flatten.length ≤ usizeMax ∧
      hdr.length + (us.map f).flatten.length < 2 ^ 64 := by omega
  -- a descriptor's chunk is a source chunk, so of `u32` size; what is stored for it is not empty, no
  -- longer, and lies in the chunk data (by lemmas: `omega` is dear with all this in scope)
  have hD : ∀ cd ∈ descrFrom H o.hashLen f 0 us, 1 ≤ cd.archiveSize ∧
      hdr.length + cd.archiveOffset + cd.archiveSize ≤ usizeMax ∧
      cd.archiveSize < 2 ^ 32 ∧ cd.archiveOffset < 2 ^ 64 ∧ cd.sourceSize < 2 ^ 32 := by
    intro cd hcd
    obtain ⟨u, hu, -, hss, has, hsl⟩ := descr_spec hcd
    have hend := List.length_append ▸ (hsl hdr).1
    have hul := hcks u (inv.sub u hu)
    have hlt : u.length < 2 ^ 32 := Nat.lt_of_le_of_lt hul.2 hmax
    exact ⟨has ▸ List.length_pos_iff.mpr (hfne u (List.ne_nil_of_length_pos hul.1)), Nat.le_trans hend harch,
      has ▸ Nat.lt_of_le_of_lt (hfle u) hlt,
      Nat.lt_of_le_of_lt (Nat.le_trans (Nat.le_trans (Nat.le_add_left ..) (Nat.le_add_right ..)) hend) hdata,
      hss ▸ hlt⟩
  obtain ⟨cc, hcc, hcb1, hcb2, hcfd⟩ := ho.compression_recorded H src us order f
  have hwf : DictWF (dictOf H o src us order f) := by
    refine ⟨version_utf8, hsrc, ?_, ?_, ?_, fun c hc => (hD c hc).2.2, ho.meta_utf8, ho.meta_sorted, henc⟩
    · exact fun p hp => ho.params_lt (Option.some.inj hp)
    · intro c hc
      rw [hcc] at hc; cases hc
      exact ⟨hcb1, hcb2⟩
    · exact fun i hi => Nat.lt_of_lt_of_le (inv.mem_order.mp hi)
        (Nat.le_trans inv.count (Nat.le_trans (Nat.le_of_eq (List.length_map _)) hcnt))
  obtain ⟨a, hopen, (hacfg : a.config = o.cfg), (hahl : a.hashLength = _),
      (hacompr : a.compression = o.compression), -, -, (hatot : a.sourceTotalSize = _),
      (hack : a.sourceChecksum = _), (haord : a.sourceOrder = _), -, -, hachunks⟩ :=
    hopen hwf (data := (us.map f).flatten) (p := paramsOf o.cfg o.hashLen) (c := cc)
      (cfg := o.cfg) (compr := o.compression) (hp := rfl) (hc := hcc)
      (hcfg := configFromParams_paramsOf _ _ ho.accepted) (hcompr := hcfd)
      (hord := fun i hi => (descrFrom_length ..).symm ▸ inv.mem_order.mp hi)
      (hhash := by rw [paramsOf_hashLen]; exact ⟨hn1, hn64⟩)
      (hsum := hsum.trans (congrArg List.length hflat))
      (hsz := fun cd hcd => (hD cd hcd).1) (hoff := fun cd hcd => (hD cd hcd).2.1) (hlen := henc')
  rw [paramsOf_hashLen] at hahl
  have hac : a.chunks = (descrFrom H o.hashLen f 0 us).map (openDescr hdr.length) := hachunks
  have hO := fun d (hd : d ∈ a.chunks) => openDescr_spec (f := f) hn64 hdr (hac ▸ hd)
  refine ⟨a, chunksOf o.cfg src, hopen, ?_, ?_⟩
  · refine ⟨hflat.symm, fun c hc => List.ne_nil_of_length_pos (hcks c hc).1, haord ▸ inv.len,
      ?_, hatot, hahl ▸ ⟨hn1, hn64⟩, ?_,
      hack ▸ hashTruncate_of_le _ _ (Nat.le_of_eq (hH src)), hacfg ▸ hv⟩
    · intro i hi
      obtain ⟨j, cd, ho, hd, hs, hck⟩ := order_descr o.hashLen f inv hinj i hi
      exact ⟨j, _, by rw [haord]; exact ho, by rw [hac, List.getElem?_map, hd]; rfl, hs,
        hahl ▸ openDescr_checksum hn64 hck⟩
    · intro d hd
      obtain ⟨u, hu, hck, hs, -⟩ := hO d hd
      exact ⟨u, inv.sub u hu, hs, hahl ▸ hck⟩
  · intro d hd
    obtain ⟨u, hu, hck, hs, hend, hsl⟩ := hO d hd
    refine ⟨hend, u, ?_, hs.symm⟩
    rw [hsl, hacompr]
    exact hdec u d hck hs

end Bita.Proofs
