/-
  `HashSum::truncate` (`hashTruncate`): the length of the result, and when truncating changes
  nothing.
-/
import Bita.Model.Index

namespace Bita.Proofs
open Bita

variable (h : Bytes) (n : Nat)

theorem length_hashTruncate : (hashTruncate h n).length = min n h.length := by
  unfold hashTruncate
  by_cases hn : n < h.length
  · rw [if_pos hn, List.length_take]
  · rw [if_neg hn, Nat.min_eq_right (Nat.le_of_not_lt hn)]

theorem hashTruncate_length_le : (hashTruncate h n).length ≤ n :=
  length_hashTruncate h n ▸ Nat.min_le_left _ _

theorem hashTruncate_of_le (hn : h.length ≤ n) : hashTruncate h n = h :=
  if_neg (Nat.not_lt_of_le hn)

theorem hashTruncate_idem : hashTruncate (hashTruncate h n) n = hashTruncate h n :=
  hashTruncate_of_le _ _ (hashTruncate_length_le h n)

/-- How `decodeChunk` compares: at the length of the recorded hash. -/
theorem hashTruncate_at_length : hashTruncate h (hashTruncate h n).length = hashTruncate h n := by
  by_cases hn : n < h.length
  · rw [length_hashTruncate, Nat.min_eq_left (Nat.le_of_lt hn)]
  · rw [hashTruncate_of_le h n (by omega), hashTruncate_of_le h _ (Nat.le_refl _)]

end Bita.Proofs
