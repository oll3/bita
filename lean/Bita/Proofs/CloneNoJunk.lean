/-
  "Junk insensitivity": the clone theorems without the escape clause for two different chunks of
  the *prior output* sharing a truncated hash.  If the shared key is that of a source chunk, one
  of the two differs from that chunk and `Collision` holds.  If not, the clone never looks at
  them: `strip` and `reorderOps` consult the scanned index only under keys of the target index
  (`Planner.reorderOps_keep`).  The proof re-keys these junk chunks by strings longer than any
  hash, whose length encodes the chunk's offset: the re-keyed prior output is a genuine tiling, and
  the run cannot tell its index from the scanned one.
-/
import Bita.Proofs.CloneIndex
import Bita.Proofs.ClonePhases
import Bita.Proofs.InPlace
import Bita.Proofs.PlannerFilter

namespace Bita.Proofs
open Bita Bita.Spec Bita.Proofs.Exec

section
variable (H : Bytes → Bytes) (hl : Nat) (cfg : Config) (prior : Bytes) (cks : List Bytes)

/-- Key of the chunk `(offset, length)` of the prior output in the re-keyed tiling.  `65 +`: longer
than any hash, and `njContent` reads the offset back from the length. -/
def njKey (c : Nat × Nat) : Bytes :=
  if ckey H hl (slice prior c.1 c.2) ∈ cks.map (ckey H hl) then ckey H hl (slice prior c.1 c.2)
  else List.replicate (65 + c.1) 0

/-- The content function of the re-keyed world. -/
def njContent (k : Bytes) : Bytes :=
  if k.length ≤ 64 then contentOf (ckey H hl) cks k
  else match (chunkAll cfg prior).find? (fun c => c.1 = k.length - 65) with
    | some c => slice prior c.1 c.2
    | none => []

variable {H hl cfg prior cks} (hhl : hl ≤ 64)
include hhl

theorem srcKey_length : ∀ k ∈ cks.map (ckey H hl), k.length ≤ 64 := by
  intro k hk
  obtain ⟨c, _, rfl⟩ := List.mem_map.1 hk
  exact Nat.le_trans (hashTruncate_length_le _ _) hhl

omit hhl in
theorem njKey_of_src {c : Nat × Nat} (h : ckey H hl (slice prior c.1 c.2) ∈ cks.map (ckey H hl)) :
    njKey H hl prior cks c = ckey H hl (slice prior c.1 c.2) :=
  if_pos h

theorem njKey_not_src {c : Nat × Nat} (h : ckey H hl (slice prior c.1 c.2) ∉ cks.map (ckey H hl)) :
    njKey H hl prior cks c ∉ cks.map (ckey H hl) := by
  intro hm
  have := srcKey_length hhl _ hm
  rw [njKey, if_neg h, List.length_replicate] at this
  omega

theorem njKey_mem {k : Bytes} (hk : k ∈ cks.map (ckey H hl)) :
    k ∈ (chunkAll cfg prior).map (njKey H hl prior cks) ↔ k ∈ chunkKeys H cfg hl prior := by
  unfold chunkKeys
  simp only [List.mem_map]
  constructor
  · rintro ⟨c, hc, rfl⟩
    by_cases h : ckey H hl (slice prior c.1 c.2) ∈ cks.map (ckey H hl)
    · exact ⟨c, hc, (njKey_of_src h).symm⟩
    · exact absurd hk (njKey_not_src hhl h)
  · rintro ⟨c, hc, rfl⟩
    exact ⟨c, hc, njKey_of_src hk⟩

variable (hc : ¬ Collision H hl cks)
include hc

theorem njContent_src : ∀ c ∈ cks, njContent H hl cfg prior cks (ckey H hl c) = c := by
  intro c hcm
  rw [njContent, if_pos (srcKey_length hhl _ (List.mem_map_of_mem hcm))]
  exact contentOf_key (good_of_no_collision hc) c hcm

variable (hv : cfg.Valid)
include hv

theorem njContent_prior : ∀ c ∈ chunkAll cfg prior,
    njContent H hl cfg prior cks (njKey H hl prior cks c) = slice prior c.1 c.2 := by
  intro c hcm
  by_cases hk : ckey H hl (slice prior c.1 c.2) ∈ cks.map (ckey H hl)
  · obtain ⟨y, hy, hky⟩ := List.mem_map.1 hk
    rw [njKey_of_src hk, good_of_no_collision hc y hy _ hky.symm]
    exact njContent_src hhl hc y hy
  · rw [njKey, if_neg hk, njContent, if_neg (by rw [List.length_replicate]; omega),
      List.length_replicate, Nat.add_sub_cancel_left, tiles_find _ _ _ (chunkAll_tiles cfg hv prior) c hcm]

theorem scanIndex_keep :
    Planner.keep (fun k => decide (k ∈ cks.map (ckey H hl))) (scanIndex H cfg hl prior) =
      Planner.keep (fun k => decide (k ∈ cks.map (ckey H hl)))
        (indexOf (njContent H hl cfg prior cks) ((chunkAll cfg prior).map (njKey H hl prior cks))) := by
  rw [indexOf_tiles (chunkAll_tiles cfg hv prior) (njContent_prior hhl hc hv)]
  refine Planner.keep_foldl_addChunk (fun c _ => ?_) rfl
  by_cases hk : ckey H hl (slice prior c.1 c.2) ∈ cks.map (ckey H hl)
  · exact Or.inl (njKey_of_src hk).symm
  · exact Or.inr ⟨decide_eq_false hk, decide_eq_false (njKey_not_src hhl hk)⟩

theorem reorder_nojunk (hne : ∀ c ∈ cks, c ≠ []) :
    ∃ st1 ret, (OutSt.mk prior (indexOf (njContent H hl cfg prior cks) (cks.map (ckey H hl))) []).reorderInPlace
        (scanIndex H cfg hl prior) = some (st1, ret) ∧
      FeedInv (njContent H hl cfg prior cks) ((chunkAll cfg prior).map (njKey H hl prior cks))
        (cks.map (ckey H hl)) st1 ((chunkAll cfg prior).map (njKey H hl prior cks)) := by
  have hpri := njContent_prior (prior := prior) hhl hc hv
  have hN : ∀ k ∈ cks.map (ckey H hl), njContent H hl cfg prior cks k ≠ [] :=
    List.forall_mem_map.2 fun c hcm => (njContent_src hhl hc c hcm).symm ▸ hne c hcm
  have hO : ∀ k ∈ (chunkAll cfg prior).map (njKey H hl prior cks), njContent H hl cfg prior cks k ≠ [] :=
    List.forall_mem_map.2 fun c hcm =>
      (hpri c hcm).symm ▸ chunksOf_ne_nil cfg hv prior _ (List.mem_map_of_mem hcm)
  obtain ⟨st1, ret, hre, hf⟩ := reorder_feedInv _ _ _ fun k hk => hk.elim (hO k) (hN k)
  rw [fileOf_map hpri, ← chunksOf, chunksOf_flatten cfg hv] at hre
  exact ⟨st1, ret, hre ▸ Planner.reorderInPlace_congr (fun e he => decide_eq_true (mem_indexOf _ _ hN e he).2)
    (scanIndex_keep hhl hc hv), hf⟩

end

/-- The state before the seeds is a feed state over the source tiling and a prior tiling: none
for a plain clone; in place, the re-keyed prior output, which `reorder_in_place` cannot tell from
the scanned one (`reorder_nojunk`). -/
theorem phase1_nojunk {H : Bytes → Bytes} {a : Archive} (opts : CloneOpts) (prior : Bytes) {src : Bytes}
    {cks : List Bytes} (hd : Describes H a src cks) :
    (∃ content st1, Phase1NJ H a opts prior src cks content st1) ∨ Collision H a.hashLength cks := by
  by_cases hc : Collision H a.hashLength cks
  · exact Or.inr hc
  have hhl := hd.hash_len.2
  have hs : CloneSetup H a plainOpts prior cks (njContent H a.hashLength a.config prior cks) :=
    ⟨njContent_src hhl hc, good_of_no_collision hc, fun h => absurd h (by decide)⟩
  by_cases hso : opts.seedOutput = true
  · obtain ⟨st1, ret, hre, hf⟩ := reorder_nojunk (prior := prior) hhl hc hd.valid hd.nonempty
    refine Or.inl ⟨_, st1, .of_feedInv hd hs (by rw [cloneSt1, if_pos hso, hre, Option.map_some]) hf
      (fun k hk => (njKey_mem hhl hk).trans (by rw [priorKeys, if_pos hso])) fun _ c hcm hy => ?_⟩
    -- the re-keyed prior output is a tiling: every chunk sits, under its new key, at its offset
    rw [placements_tiles (chunkAll_tiles a.config hd.valid prior) (njContent_prior hhl hc hd.valid),
      ← njKey_of_src (List.mem_map_of_mem hy)]
    exact List.mem_map_of_mem hcm
  · exact Or.inl ⟨_, _, .of_feedInv hd hs (by rw [cloneSt1, if_neg hso]) (feedInv_nil _ _ prior)
      (fun k _ => by rw [priorKeys, if_neg hso]) fun h => absurd h hso⟩

/-- **Soundness**, the only escape being a collision with a source chunk. -/
theorem clone_sound_nojunk (H : Bytes → Bytes) (hH : ∀ x, (H x).length = 64)
    (decomp : Nat → Bytes → Nat → Option Bytes) (features : List Nat)
    (readAt : Nat → Nat → Option Bytes) (readChunks : List (Nat × Nat) → List (Option Bytes))
    (opts : CloneOpts) (prior : Bytes) (seeds : List Bytes)
    (a : Archive) (src : Bytes) (cks : List Bytes)
    (hinit : tryInit H features readAt = .ok a) (hd : Describes H a src cks)
    (hitems : ∀ ranges, (readChunks ranges).length = ranges.length) :
    let r := Clone.run H decomp features readAt readChunks opts prior seeds
    r.result = .ok →
      (setLen r.output src.length = src ∧ (opts.blockDev = false → r.output = src)) ∨
      Collision H a.hashLength cks := by
  dsimp only
  intro hr
  refine (phase1_nojunk opts prior hd).imp_left fun ⟨content, st1, P⟩ => ?_
  rcases P.run_cases seeds decomp readChunks hinit with h | hrun
  · exact absurd hr h.1
  rw [hrun] at hr ⊢
  have h3 := (runFromSeeds_ok_iff.1 hr).1
  rw [runFromSeeds_output h3]
  exact cloneOutput_correct opts hd.total
    (P.afterArchive_file seeds hH hd decomp readChunks h3 (Nat.le_of_eq (hitems _).symm)).1

/-- **Completeness**, the only escape being a collision with a source chunk. -/
theorem clone_complete_nojunk (H : Bytes → Bytes) (hH : ∀ x, (H x).length = 64)
    (decomp : Nat → Bytes → Nat → Option Bytes) (features : List Nat)
    (archive : Bytes) (opts : CloneOpts) (prior : Bytes) (seeds : List Bytes)
    (a : Archive) (src : Bytes) (cks : List Bytes)
    (hinit : tryInit H features (honestReadAt archive) = .ok a) (hd : Describes H a src cks)
    (hs : Stored H decomp a archive)
    (hpin : ∀ pin, opts.headerPin = some pin → pin = a.headerChecksum)
    (hdev : opts.blockDev = true → src.length ≤ prior.length) :
    let r := Clone.run H decomp features (honestReadAt archive) (honestReadChunks archive) opts prior seeds
    (r.result = .ok ∧ setLen r.output src.length = src ∧ (opts.blockDev = false → r.output = src)) ∨
      Collision H a.hashLength cks := by
  dsimp only
  refine (phase1_nojunk opts prior hd).imp_left fun ⟨content, st1, P⟩ => ?_
  rw [run_eq_fromSeeds decomp (honestReadChunks archive) opts prior seeds hinit P.hix hpin (hd.total ▸ hdev)
    P.hst1]
  have h3 : (cloneSt3 H decomp (honestReadChunks archive) a seeds st1).2 = none :=
    feedArchive_honest hs _ (fun d h => (List.mem_filter.1 h).1)
  obtain ⟨hres, hlen⟩ := P.afterArchive_file seeds hH hd decomp (honestReadChunks archive) h3
    (Nat.le_of_eq (List.length_map _).symm)
  obtain ⟨ho1, ho2⟩ := cloneOutput_correct opts hd.total hres
  rw [runFromSeeds_output h3, runFromSeeds_ok_iff]
  refine ⟨⟨h3, fun _ => ?_⟩, ho1, ho2⟩
  rw [cloneHashed_correct hd.total ho1 (fun hb => Nat.le_trans (hdev hb) hlen), hd.checksum]
  exact hashTruncate_of_le _ _ (Nat.le_refl _)

set_option linter.unusedVariables false in
/-- **Fetch exactness**, the only escape being a collision with a source chunk. -/
theorem fetch_exact_nojunk (H : Bytes → Bytes) (hH : ∀ x, (H x).length = 64)
    (decomp : Nat → Bytes → Nat → Option Bytes) (features : List Nat)
    (readAt : Nat → Nat → Option Bytes) (readChunks : List (Nat × Nat) → List (Option Bytes))
    (opts : CloneOpts) (prior : Bytes) (seeds : List Bytes)
    (a : Archive) (src : Bytes) (cks : List Bytes)
    (hinit : tryInit H features readAt = .ok a) (hd : Describes H a src cks)
    (hitems : ∀ ranges, (readChunks ranges).length = ranges.length) :
    let r := Clone.run H decomp features readAt readChunks opts prior seeds
    r.result = .ok →
      r.requests = [ArchReq.readAt 0 Gen.preHeaderSize,
                    ArchReq.readAt Gen.preHeaderSize (a.headerSize - Gen.preHeaderSize),
                    ArchReq.readChunks ((a.chunks.filter (fun d =>
                      !(foundKeys H a opts prior seeds).contains (hashTruncate d.checksum a.hashLength))).map
                      (fun d => (d.archiveOffset, d.archiveSize)))] ∨
      Collision H a.hashLength cks := by
  dsimp only
  intro hr
  refine (phase1_nojunk opts prior hd).imp_left fun ⟨content, st1, P⟩ => ?_
  rcases P.run_cases seeds decomp readChunks hinit with h | hrun
  · exact absurd hr h.1
  rw [hrun, runFromSeeds_log_requests.2, cloneRanges, P.fetchList_eq seeds hH hd]
  rfl

/-- **Write log of a clone**, the only escape being a collision with a source chunk. -/
theorem clone_write_log_exact_nojunk (H : Bytes → Bytes) (hH : ∀ x, (H x).length = 64)
    (decomp : Nat → Bytes → Nat → Option Bytes) (features : List Nat)
    (readAt : Nat → Nat → Option Bytes) (readChunks : List (Nat × Nat) → List (Option Bytes))
    (opts : CloneOpts) (prior : Bytes) (seeds : List Bytes)
    (a : Archive) (src : Bytes) (cks : List Bytes)
    (hinit : tryInit H features readAt = .ok a) (hd : Describes H a src cks) :
    let W := writesOf (Clone.run H decomp features readAt readChunks opts prior seeds).log
    ((∀ w ∈ W, w ∈ chunkPlacements cks 0) ∧
     (W.map (·.1)).Nodup ∧
     (∀ w ∈ W, w.1 + w.2.length ≤ src.length) ∧
     (opts.seedOutput = true → ∀ w ∈ W, ∀ c ∈ chunkAll a.config prior,
        c.1 = w.1 → slice prior c.1 c.2 ≠ w.2)) ∨
    Collision H a.hashLength cks := by
  dsimp only
  refine (phase1_nojunk opts prior hd).imp_left fun ⟨content, st1, P⟩ => ?_
  rcases P.run_cases seeds decomp readChunks hinit with h | hrun
  · rw [h.2.2.1]
    exact ⟨nofun, List.nodup_nil, nofun, fun _ => nofun⟩
  obtain ⟨ks, hks, -⟩ := P.afterArchive seeds hH hd decomp readChunks
  rw [hrun, runFromSeeds_log_requests.1, hks]
  exact P.writes ks

end Bita.Proofs
