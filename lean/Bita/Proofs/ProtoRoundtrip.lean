/-
  prost encoding followed by prost decoding is the identity on well-formed dictionaries (C11 T2).
  First the sub-messages, each followed field by field (`Decodes`): what the merge step does at a
  field number is read off the model by evaluation.  Each is stated of bytes `x` that are the
  encoding (`hx`), the shape in which `Decodes.optMsg` and `Decodes.repeated` ask for it.  Then what
  the dictionary's repeated fields add up to, and the dictionary itself (`proto_roundtrip`).
-/
import Bita.Spec.ArchiveSpec
import Bita.Proofs.ProtoFields

namespace Bita.Proofs
open Bita Bita.Proto Bita.Spec

theorem roundtrip_descriptor {β : Type} (c : ChunkDescriptor) {x : Bytes} (hx : encodeDescriptor c = x)
    (h0 : x.length < 2 ^ 64) (h1 : c.archiveSize < 2 ^ 32) (h2 : c.archiveOffset < 2 ^ 64)
    (h3 : c.sourceSize < 2 ^ 32) (k : ChunkDescriptor → β) :
    (parse x).bind (fun sub => (mergeDescriptor sub {}).map k) = some (k c) := by
  subst hx
  exact Decodes.decode_map (.append (.append (.append
    (.bytes ({ · with checksum := · }) (by decide) (hs := rfl) (h0 := rfl) (hd := rfl))
    (.uint32 ({ · with archiveSize := · }) (by decide) h1
      (hs := fun _ => rfl) (h0 := rfl) (hd := rfl)))
    (.uint id ({ · with archiveOffset := · }) (by decide) h2
      (hg := rfl) (hs := fun _ => rfl) (h0 := rfl) (hd := rfl)))
    (.uint32 ({ · with sourceSize := · }) (by decide) h3
      (hs := fun _ => rfl) (h0 := rfl) (hd := rfl))) h0

theorem roundtrip_params {β : Type} (p : ChunkerParameters) {x : Bytes} (hx : encodeParams p = x)
    (h0 : x.length < 2 ^ 64)
    (h : p.chunkFilterBits < 2 ^ 32 ∧ p.minChunkSize < 2 ^ 32 ∧ p.maxChunkSize < 2 ^ 32 ∧
      p.rollingHashWindowSize < 2 ^ 32 ∧ p.chunkHashLength < 2 ^ 32 ∧ p.chunkingAlgorithm < 2 ^ 32)
    (k : ChunkerParameters → β) :
    (parse x).bind (fun sub => (mergeParams sub {}).map k) = some (k p) := by
  subst hx
  exact Decodes.decode_map (.append (.append (.append (.append (.append
    (.uint32 ({ · with chunkFilterBits := · }) (by decide) h.1
      (hs := fun _ => rfl) (h0 := rfl) (hd := rfl))
    (.uint32 ({ · with minChunkSize := · }) (by decide) h.2.1
      (hs := fun _ => rfl) (h0 := rfl) (hd := rfl)))
    (.uint32 ({ · with maxChunkSize := · }) (by decide) h.2.2.1
      (hs := fun _ => rfl) (h0 := rfl) (hd := rfl)))
    (.uint32 ({ · with rollingHashWindowSize := · }) (by decide) h.2.2.2.1
      (hs := fun _ => rfl) (h0 := rfl) (hd := rfl)))
    (.uint32 ({ · with chunkHashLength := · }) (by decide) h.2.2.2.2.1
      (hs := fun _ => rfl) (h0 := rfl) (hd := rfl)))
    (.int32 ({ · with chunkingAlgorithm := · }) (by decide) h.2.2.2.2.2
      (hs := fun _ => rfl) (h0 := rfl) (hd := rfl))) h0

theorem roundtrip_compression {β : Type} (c : ChunkCompression) {x : Bytes} (hx : encodeCompression c = x)
    (h0 : x.length < 2 ^ 64) (h1 : c.compression < 2 ^ 32) (h2 : c.compressionLevel < 2 ^ 32)
    (k : ChunkCompression → β) :
    (parse x).bind (fun sub => (mergeCompression sub {}).map k) = some (k c) := by
  subst hx
  exact Decodes.decode_map (.append
    (.int32 ({ · with compression := · }) (by decide) h1
      (hs := fun _ => rfl) (h0 := rfl) (hd := rfl))
    (.uint32 ({ · with compressionLevel := · }) (by decide) h2
      (hs := fun _ => rfl) (h0 := rfl) (hd := rfl))) h0

theorem asString_valid {b : Bytes} (h : utf8Valid b = true) : asString (some (.len b)) = some b := by
  simp [asString, h]

theorem roundtrip_mapEntry {β : Type} (k v : Bytes) {x : Bytes} (hx : encodeMapEntry k v = x)
    (h0 : x.length < 2 ^ 64) (hk : utf8Valid k = true) (g : Bytes × Bytes → β) :
    (parse x).bind (fun sub => (mergeMapEntry sub).map g) = some (g (k, v)) := by
  subst hx
  exact Decodes.decode_map (.append
    (.bytes (fun e k => (k, e.2)) (by decide) (congrArg (Option.map _) (asString_valid hk))
      (h0 := rfl) (hd := rfl))
    (.bytes (fun e v => (e.1, v)) (by decide) (hs := rfl) (h0 := rfl) (hd := rfl))) h0

theorem encVarint_total_length (l : List Nat) : l.length ≤ (l.map encodeVarint).flatten.length := by
  induction l with
  | nil => simp
  | cons a l ih =>
    have := List.length_pos_iff.mpr (encodeVarint_ne_nil a)
    simp only [List.map_cons, List.flatten_cons, List.length_append, List.length_cons]
    omega

theorem decodePacked_cons (fuel n : Nat) (hn : n < 2 ^ 64) (rest : Bytes) :
    decodePacked (fuel + 1) (encodeVarint n ++ rest) = (decodePacked fuel rest).map (u32 n :: ·) := by
  rw [decodePacked, varint_roundtrip n hn rest]
  exact fun h => encodeVarint_ne_nil n (List.append_eq_nil_iff.mp h).1

theorem decodePacked_encode : ∀ (ns : List Nat) (fuel : Nat), (∀ n ∈ ns, n < 2 ^ 32) →
    ns.length < fuel → decodePacked fuel (ns.map encodeVarint).flatten = some ns
  | _, 0, _, hf => nomatch hf
  | [], _ + 1, _, _ => rfl
  | n :: ns, f + 1, hb, hf => by
    have hn := hb n (List.mem_cons_self ..)
    rw [List.map_cons, List.flatten_cons, decodePacked_cons f n (Nat.lt_trans hn (by decide)),
      decodePacked_encode ns f (fun m hm => hb m (List.mem_cons_of_mem _ hm)) (Nat.lt_of_succ_lt_succ hf),
      Option.map_some, u32_of_lt n hn]

theorem decodePacked_body (ns : List Nat) (hb : ∀ n ∈ ns, n < 2 ^ 32) :
    decodePacked ((ns.map encodeVarint).flatten.length + 1) (ns.map encodeVarint).flatten
      = some ns :=
  decodePacked_encode ns _ hb (by have := encVarint_total_length ns; omega)

theorem foldl_descriptors (cs : List ChunkDescriptor) : ∀ (d : ChunkDictionary),
    cs.foldl (fun d c => { d with chunkDescriptors := d.chunkDescriptors ++ [c] }) d =
      { d with chunkDescriptors := d.chunkDescriptors ++ cs } := by
  induction cs with
  | nil => intro d; simp
  | cons c cs ih => intro d; simp [ih]

theorem mapInsert_last (k v : Bytes) : ∀ (l : List (Bytes × Bytes)),
    (∀ e ∈ l, e.1.map (·.toNat) < k.map (·.toNat)) → mapInsert k v l = l ++ [(k, v)]
  | [], _ => rfl
  | (k', v') :: l, h => by
    have hlt := h (k', v') (List.mem_cons_self ..)
    rw [mapInsert, if_neg fun e => List.lt_irrefl _ (e ▸ hlt),
      if_neg fun e => List.lt_asymm hlt (compareOfLessAndEq_eq_lt.mp e),
      mapInsert_last k v l fun e he => h e (List.mem_cons_of_mem _ he)]
    rfl

/-- Entries written in ascending key order land one behind the other. -/
theorem foldl_metadata : ∀ (ms : List (Bytes × Bytes)) (d : ChunkDictionary),
    (d.metadata ++ ms).Pairwise (fun a b => (a.1.map (·.toNat)) < (b.1.map (·.toNat))) →
    ms.foldl (fun d e => { d with metadata := mapInsert e.1 e.2 d.metadata }) d =
      { d with metadata := d.metadata ++ ms }
  | [], d, _ => by simp
  | e :: ms, d, hs => by
    have hlast : mapInsert e.1 e.2 d.metadata = d.metadata ++ [e] :=
      mapInsert_last _ _ _ fun e' he' => (List.pairwise_append.mp hs).2.2 e' he' e (List.mem_cons_self ..)
    rw [List.foldl_cons, hlast, foldl_metadata ms _ (by simpa using hs)]
    simp

/-- The eight fields in the order `encodeDictionary` writes them, each merged into what the fields
before it have built. -/
theorem proto_roundtrip (d : ChunkDictionary) (hwf : DictWF d) :
    decodeDictionary (encodeDictionary d) = some d :=
  Decodes.decode (.append (.append (.append (.append (.append (.append (.append
    (.bytes ({ · with applicationVersion := · }) (by decide)
      (congrArg (Option.map _) (asString_valid hwf.version)) (h0 := rfl) (hd := rfl))
    (.bytes ({ · with sourceChecksum := · }) (by decide) (hs := rfl) (h0 := rfl) (hd := rfl)))
    (.uint id ({ · with sourceTotalSize := · }) (by decide) hwf.total
      (hg := rfl) (hs := fun _ => rfl) (h0 := rfl) (hd := rfl)))
    (.optMsg Gen.tag_ChunkDictionary_chunker_params encodeParams d.chunkerParams
      ({ · with chunkerParams := · }) (by decide) (by cases d.chunkerParams <;> rfl)
      (fun p hp _ hx hl => roundtrip_params p hx hl (hwf.params p hp) _) (h0 := rfl) (hd := rfl)))
    (.optMsg Gen.tag_ChunkDictionary_chunk_compression encodeCompression d.chunkCompression
      ({ · with chunkCompression := · }) (by decide) (by cases d.chunkCompression <;> rfl)
      (fun c hc _ hx hl => roundtrip_compression c hx hl (hwf.compr c hc).1 (hwf.compr c hc).2 _)
      (h0 := rfl) (hd := rfl)))
    (.packed ({ · with rebuildOrder := · }) (by decide)
      (congrArg (Option.map _) (decodePacked_body d.rebuildOrder hwf.order))
      (h0 := rfl) (hd := rfl)))
    (.repeated _ (by decide)
      (fun _ c hc _ hx hl => roundtrip_descriptor c hx hl (hwf.descr c hc).1 (hwf.descr c hc).2.1
        (hwf.descr c hc).2.2 _) (foldl_descriptors _ _)))
    (.repeated _ (by decide)
      (fun _ e he _ hx hl => roundtrip_mapEntry e.1 e.2 hx hl (hwf.meta_utf8 e he) _)
      (foldl_metadata _ _ hwf.meta_sorted))) hwf.size

end Bita.Proofs
