/-
  `Config.Valid` asks `FilterConfig.Valid` (with `window ≤ maxSize`) of BuzHash only; RollSum
  needs no warm-up, so it gets the weaker `FilterConfig.ValidRoll`.  The lemmas shared between
  the two rolling algorithms are stated under `FilterConfig.Sane`, the common part less the bounds
  on `bits`, which none of them uses; `window ≤ maxSize` is asked separately, only where the hasher
  is a BuzHash.
-/
import Bita.Model.Chunker

namespace Bita

structure FilterConfig.Sane (f : FilterConfig) : Prop where
  win1 : 1 ≤ f.window
  max1 : 1 ≤ f.maxSize
  mm : f.minSize ≤ f.maxSize

theorem FilterConfig.Sane_of_Valid {f : FilterConfig} (hv : f.Valid) : f.Sane :=
  ⟨hv.1, Nat.le_trans hv.1 hv.2.1, hv.2.2.1⟩

theorem FilterConfig.Sane_of_ValidRoll {f : FilterConfig} (hv : f.ValidRoll) : f.Sane :=
  ⟨hv.1, hv.2.1, hv.2.2.1⟩

theorem FilterConfig.Valid.window_le {f : FilterConfig} (hv : f.Valid) : f.window ≤ f.maxSize :=
  hv.2.1

end Bita
