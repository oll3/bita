/-
  The reader inside one run against the run-level specification `fetchRun`, for a server that
  answers with the bytes of `data`: the buffer holds data from the start of the chunk it is in,
  `drain` hands out exact chunks (`drain_exact`), and the output is the step `runSpec` of `fetchAll`
  on what `fetchRun` says (`run_eq_runSpec`).  Before that, what C08 reads off `fetchRun`.
-/
import Bita.Spec.Resume
import Bita.Proofs.Slice
import Bita.Proofs.HttpStep

namespace Bita.Proofs
open Bita Bita.Spec

/-- What C08 reads off an outcome `res` of `fetchRun stop pos` (the claim of `fetchRun_requests`). -/
abbrev FetchOK (stop pos : Nat) (res : Nat × List (Nat × Nat) × RunEnd × List Resp) : Prop :=
  (∀ q ∈ res.2.1, q.1 + q.2 = stop ∧ pos ≤ q.1) ∧ pos ≤ res.1 ∧ res.1 ≤ stop ∧
    (res.2.2.1 = RunEnd.done → res.1 = stop)

theorem FetchOK.last {stop pos p : Nat} (e : RunEnd) (s : List Resp) (h1 : pos ≤ p)
    (h2 : p ≤ stop) (h3 : e = RunEnd.done → p = stop) :
    FetchOK stop pos (p, [(pos, stop - pos)], e, s) := by
  refine ⟨?_, h1, h2, h3⟩
  intro q hq
  rw [List.mem_singleton.1 hq]
  exact ⟨Nat.add_sub_cancel' (Nat.le_trans h1 h2), Nat.le_refl _⟩

theorem FetchOK.retry {stop pos p : Nat} {res : Nat × List (Nat × Nat) × RunEnd × List Resp}
    (h : FetchOK stop p res) (hp : pos ≤ p) (hle : pos ≤ stop) :
    FetchOK stop pos (res.1, (pos, stop - pos) :: res.2.1, res.2.2.1, res.2.2.2) := by
  refine ⟨?_, Nat.le_trans hp h.2.1, h.2.2⟩
  intro q hq
  rcases List.mem_cons.1 hq with rfl | hq
  · exact ⟨Nat.add_sub_cancel' hle, Nat.le_refl _⟩
  · exact ⟨(h.1 q hq).1, Nat.le_trans hp (h.1 q hq).2⟩

theorem fetchRun_requests (stop pos budget : Nat) (script : List Resp) (hle : pos ≤ stop) :
    let r := fetchRun stop pos budget script
    (∀ q ∈ r.2.1, q.1 + q.2 = stop ∧ pos ≤ q.1) ∧ pos ≤ r.1 ∧ r.1 ≤ stop ∧
    (r.2.2.1 = RunEnd.done → r.1 = stop) := by
  show FetchOK stop pos (fetchRun stop pos budget script)
  -- The branches of `fetchRun` in order: 1 the script is at its end; 2 a complete response;
  -- 3, 4 refused, without and with a retry left; 5 a part that completes the run; 6, 7 a part cut
  -- short, without and with a retry left; 8 a part that ends early without an error.  A part brings
  -- the position to `min stop (pos + n)`.
  fun_induction fetchRun stop pos budget script with
  | case1 | case3 => exact .last _ _ (Nat.le_refl _) hle nofun
  | case2 | case5 => exact .last _ _ hle (Nat.le_refl _) fun _ => rfl
  | case6 | case8 =>
    exact .last _ _ (Nat.le_min.2 ⟨hle, Nat.le_add_right _ _⟩) (Nat.min_le_left _ _) nofun
  | case4 =>
    rename_i heq ih
    exact (heq ▸ ih hle).retry (Nat.le_refl _) hle
  | case7 =>
    rename_i heq ih
    exact (heq ▸ ih (Nat.min_le_left _ _)).retry (Nat.le_min.2 ⟨hle, Nat.le_add_right _ _⟩) hle

theorem fetchRun_end (stop pos budget : Nat) (script : List Resp) :
    ((fetchRun stop pos budget script).2.2.1 = RunEnd.done ∧
        (fetchRun stop pos budget script).2.2.2.length < script.length) ∨
      (fetchRun stop pos budget script).2.2.1 = RunEnd.fail Item.stall ∨
      (fetchRun stop pos budget script).2.2.1 = RunEnd.fail Item.errHttp ∨
      (fetchRun stop pos budget script).2.2.1 = RunEnd.fail Item.errEnd := by
  fun_induction fetchRun stop pos budget script with
  | case1 => exact .inr (.inl rfl)
  | case2 | case5 => exact .inl ⟨rfl, Nat.lt_succ_self _⟩
  | case3 | case6 => exact .inr (.inr (.inl rfl))
  | case8 => exact .inr (.inr (.inr rfl))
  | case4 | case7 =>
    rename_i heq ih
    exact (heq ▸ ih).imp_left (And.imp_right Nat.lt_succ_of_lt)

variable (data : Bytes)

/-- What a run gives, by the outcome `res` of `fetchRun` on it: the step of `fetchAll`
(`fetchAll_cons`, with `fetchAll` on the runs that follow as `next`). -/
def runSpec (run : List ChunkOffset) (next : List Resp → Out)
    (res : Nat × List (Nat × Nat) × RunEnd × List Resp) : Out :=
  match res.2.2.1 with
  | .done => ⟨run.map (exactItem data) ++ (next res.2.2.2).items, res.2.1 ++ (next res.2.2.2).reqs⟩
  | .fail it => ⟨(run.filter (fun c => c.stop ≤ res.1)).map (exactItem data) ++ [it], res.2.1⟩

variable {c : ChunkOffset} {done r : List ChunkOffset} {pos : Nat} {next : List Resp → Out}

theorem filter_stuck (hc : Contiguous (c :: r)) (h : pos < c.stop) :
    (c :: r).filter (fun x => x.stop ≤ pos) = [] :=
  List.filter_eq_nil_iff.2 fun x hx => mt of_decide_eq_true
    (Nat.not_le_of_lt (Nat.lt_of_lt_of_le h (contiguous_stop_le hc x hx)))

theorem filter_split {l : List ChunkOffset} (hdone : ∀ x ∈ done, x.stop ≤ pos) :
    (done ++ l).filter (fun x => x.stop ≤ pos) = done ++ l.filter (fun x => x.stop ≤ pos) := by
  rw [List.filter_append, List.filter_eq_self.2 fun x hx => decide_eq_true (hdone x hx)]

theorem runSpec_stuck {rq : List (Nat × Nat)} {it : Item} {s : List Resp}
    (hdone : ∀ x ∈ done, x.stop ≤ pos) (hc : Contiguous (c :: r)) (h : pos < c.stop) :
    runSpec data (done ++ c :: r) next (pos, rq, .fail it, s) =
      ⟨done.map (exactItem data) ++ [it], rq⟩ := by
  simp only [runSpec]
  rw [filter_split hdone, filter_stuck hc h, List.append_nil]

theorem runSpec_prepend {run : List ChunkOffset} {q : Nat × Nat}
    {res : Nat × List (Nat × Nat) × RunEnd × List Resp} (hdone : ∀ x ∈ done, x.stop ≤ res.1) :
    (⟨done.map (exactItem data) ++ (runSpec data run next res).items,
      q :: (runSpec data run next res).reqs⟩ : Out) =
      runSpec data (done ++ run) next (res.1, q :: res.2.1, res.2.2.1, res.2.2.2) := by
  obtain ⟨pos, rq, e, s⟩ := res
  cases e <;> simp [runSpec, filter_split hdone]

/-- The number of body bytes an attempt delivers, of `size` requested. -/
def respLen (size : Nat) : Resp → Nat
  | .refuse => 0
  | .full _ => size
  | .part n _ _ => min size n

theorem respLen_le (size : Nat) (x : Resp) : respLen size x ≤ size := by
  cases x <;> simp [respLen, Nat.min_le_left]

theorem recv_slice (off size : Nat) (x : Resp) :
    (recv (slice data off size) x).take size = slice data off (respLen size x) := by
  cases x <;> simp [recv, respLen, slice_take, slice_zero]

/-- `fetchRun` with its three kinds of response as one: a refused request is a transfer cut after
0 bytes, a complete response one that brings everything. -/
theorem fetchRun_cons {stop pos size budget : Nat} {x : Resp} {s : List Resp}
    (hs : pos + size = stop) (h : 0 < size) :
    fetchRun stop pos budget (x :: s) =
      if respLen size x = size then (stop, [(pos, size)], .done, s)
      else if respCut x then
        if budget = 0 then (pos + respLen size x, [(pos, size)], .fail Item.errHttp, s)
        else
          let (p, rq, e, rest) := fetchRun stop (pos + respLen size x) (budget - 1) s
          (p, (pos, size) :: rq, e, rest)
      else (pos + respLen size x, [(pos, size)], .fail Item.errEnd, s) := by
  subst hs
  cases x with
  | refuse =>
    rw [fetchRun]
    simp only [respLen, respCut, Nat.add_sub_cancel_left, Nat.add_zero, if_neg (Nat.ne_of_lt h), if_true]
  | full fr =>
    rw [fetchRun]
    simp only [respLen, Nat.add_sub_cancel_left, if_true]
  | part n fr cut =>
    rw [fetchRun]
    simp only [respLen, respCut, Nat.add_sub_cancel_left, Nat.add_min_add_left, Nat.add_left_cancel_iff]
    -- what is left differs in the `Decidable` instances, where `simp` does not unfold
    rfl

/-- Cut off a buffer that holds the data from `start` on, the chunks `done` at the front of a run
that starts there are exact, whatever surplus `m'` lies behind them; `rem` starts where they end. -/
theorem prefix_slice {rem : List ChunkOffset} :
    ∀ (done : List ChunkOffset) {start : Nat} (m' : Nat), Contiguous (done ++ rem) →
      (∀ c ∈ (done ++ rem).head?, c.offset = start) →
      pieces done (slice data start (total done + m')) = done.map (exactItem data) ∧
      (∀ x ∈ done, x.stop ≤ start + total done) ∧
      (∀ c ∈ rem.head?, c.offset = start + total done) ∧ Contiguous rem := by
  intro done
  induction done with
  | nil => intro start m' hc hh; exact ⟨rfl, nofun, hh, hc⟩
  | cons a done ih =>
    intro start m' hc hh
    obtain rfl : a.offset = start := hh a rfl
    obtain ⟨p1, p2, p3, p4⟩ := ih (start := a.offset + a.size) m' (contiguous_tail hc)
      fun b hb => (contiguous_head hc b hb).symm
    refine ⟨?_, List.forall_mem_cons.2 ⟨Nat.add_le_add_left (Nat.le_add_right _ _) _,
      fun x hx => Nat.add_assoc .. ▸ p2 x hx⟩, fun c h => (p3 c h).trans (Nat.add_assoc ..), p4⟩
    rw [total, Nat.add_assoc, pieces, slice_take, slice_drop, Nat.min_eq_left (Nat.le_add_right _ _),
      Nat.add_sub_cancel_left, p1]
    rfl

/-- `drain_run` on a buffer that holds the data from where the run `c :: r` starts up to `pos`. -/
theorem drain_exact {rest : List ChunkOffset} (hrest : ∀ c ∈ rest.head?, 1 ≤ c.size)
    (q : Nat × Nat × Nat) {m size : Nat}
    (hcont : Contiguous (c :: r)) (hpos : c.offset + m = pos) (hin : pos ≤ data.length)
    (hb : m + size = total (c :: r)) :
    ∃ done rem m', c :: r = done ++ rem ∧
      CR.drain (c :: r ++ rest) (slice data c.offset m) (c :: r).length (some q) =
        (done.map (exactItem data),
          ⟨rem ++ rest, slice data (c.offset + total done) m', rem.length,
            if rem = [] then none else some q⟩, false) ∧
      m' + size = total rem ∧ (∀ x ∈ done, x.stop ≤ pos) ∧ Contiguous rem ∧
      ∀ c' ∈ rem.head?, c'.offset = c.offset + total done ∧ c'.offset + m' = pos ∧ m' < c'.size := by
  subst hpos
  have hlen : (slice data c.offset m).length = m := slice_length hin
  obtain ⟨done, rem, hsplit, hdr, hd, hinv, hshort⟩ :=
    drain_run hrest q (List.cons_ne_nil c r) (hlen.symm ▸ hb)
  rw [hlen] at hd
  obtain ⟨m', rfl⟩ := Nat.exists_eq_add_of_le hd
  rw [List.length_drop, hlen, Nat.add_sub_cancel_left] at hinv hshort
  obtain ⟨p1, p2, p3, p4⟩ := prefix_slice data done (start := c.offset) m' (hsplit ▸ hcont)
    (by rw [← hsplit]; simp)
  refine ⟨done, rem, m', hsplit, ?_, hinv,
    fun x hx => Nat.le_trans (p2 x hx) (Nat.add_le_add_left (Nat.le_add_right _ _) _), p4,
    fun c' h => ⟨p3 c' h, by rw [p3 c' h, Nat.add_assoc], hshort c' h⟩⟩
  rw [hdr, p1, slice_drop, Nat.add_sub_cancel_left]

variable (retry : Nat)

/-- Inside the run `c :: r` at the byte `pos`, with the first `m` bytes of `c` buffered and `size`
to go to the end `stop` of the run, the reader does what `fetchRun` says of the rest of the run. -/
theorem run_eq_runSpec {rest : List ChunkOffset} (hrest : ∀ c ∈ rest.head?, 1 ≤ c.size) {stop : Nat}
    (hin : stop ≤ data.length) :
    ∀ (script : List Resp) {c : ChunkOffset} {r : List ChunkOffset} {m size pos : Nat} (rl : Nat),
      Contiguous (c :: r) → c.offset + m = pos → pos + size = stop →
      m + size = total (c :: r) → m < c.size →
      CR.run (slice data) retry script
          ⟨c :: r ++ rest, slice data c.offset m, (c :: r).length, some (pos, size, rl)⟩ =
        runSpec data (c :: r) (CR.run (slice data) retry · ⟨rest, [], 0, none⟩)
          (fetchRun stop pos rl script) := by
  intro script
  induction script with
  | nil =>
    intro c r m size pos rl hcont hpos hstop hb hc
    rw [List.cons_append, run_open [] (Nat.lt_of_le_of_lt (length_slice _ _ _ ▸ Nat.min_le_left _ _) hc)
      (missing_pos hb hc), fetchRun, ← hstop, Nat.add_sub_cancel_left]
    exact (runSpec_stuck data (done := []) nofun hcont (hpos ▸ Nat.add_lt_add_left hc _)).symm
  | cons x s ih =>
    intro c r m size pos rl hcont hpos hstop hb hc
    subst hpos
    have hlen : (slice data c.offset m).length = m :=
      slice_length (Nat.le_trans (hstop ▸ Nat.le_add_right _ size) hin)
    rw [run_step hrest (hlen.symm ▸ hb) (hlen.symm ▸ hc) (recv_slice data _ size x),
      fetchRun_cons hstop (missing_pos hb hc)]
    -- `n` bytes arrive, `k` stay missing
    obtain ⟨k, hk⟩ := Nat.exists_eq_add_of_le (respLen_le size x)
    generalize respLen size x = n at hk
    subst hk
    rw [← Nat.add_assoc] at hstop hb
    have hle : c.offset + m + n ≤ stop := hstop ▸ Nat.le_add_right _ k
    rw [slice_append, slice_length (Nat.le_trans hle hin), Nat.add_sub_cancel_left]
    obtain ⟨done, rem, m', hsplit, hdr, hinv, hdone, hrem, hhead⟩ :=
      drain_exact data hrest (c.offset + m + n, k, rl) hcont (Nat.add_assoc _ m n).symm
        (Nat.le_trans hle hin) hb
    rw [hdr, hsplit]
    cases rem with
    | nil =>
      obtain ⟨rfl, rfl⟩ := Nat.add_eq_zero_iff.1 hinv
      simp [feedOf, afterFeed, runSpec, slice_zero]
    | cons c' r' =>
      obtain ⟨hoff, hpos', hc'⟩ := hhead c' rfl
      have hstuck : c.offset + m + n < c'.stop := hpos' ▸ Nat.add_lt_add_left hc' _
      rw [← hoff, if_neg (Nat.ne_of_lt (Nat.lt_add_of_pos_right (missing_pos hinv hc')))]
      -- part of the run stays missing (`afterFeed` on `bodyDone`, by computation): a clean end, or
      -- a cut with no retry left, ends the stream with an error item; a cut with a retry left goes on
      cases respCut x with
      | false => exact (runSpec_stuck data hdone hrem hstuck).symm
      | true =>
        cases rl with
        | zero => exact (runSpec_stuck data hdone hrem hstuck).symm
        | succ rl =>
          refine .trans ?_ (runSpec_prepend data fun x hx => Nat.le_trans (hdone x hx)
            (fetchRun_requests stop _ _ s hle).2.1)
          rw [← ih (rl + 1 - 1) hrem hpos' hstop hinv hc']
          rfl

end Bita.Proofs
