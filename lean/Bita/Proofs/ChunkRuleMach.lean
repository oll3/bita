/-
  The chunker model computes the pure chunking rule (C09 T5): one `RollingHashChunker::next` at a
  chunk start, with the whole remainder buffered, is `specCut`.

  Proved on the byte machine `CS.mach`, by one induction over the bytes of the chunk (`mach_rule`),
  against the rule with the lengths up to the offset ruled out (`cutAfter`).  What has to be
  carried along is how much of the hasher's window is not yet that of the stream (`HAt`): nothing
  when a chunk continues where the last one stopped, all of it after the bytes below
  `hash_input_limit` were passed over, and one place less with every byte fed;
  `hash_input_limit = minSize - window` is chosen so that the window is whole again when the first
  test is due.

  Namespace `Rule` holds what concerns the chunking rule (`specCut`, `cutsFrom`), `CS` ("chunk
  stream") what concerns the streaming chunker `SC` and the `next` it polls.
-/
import Bita.Proofs.HashWindow
import Bita.Proofs.SpecChunks
import Bita.Proofs.ChunkStreamMach
namespace Bita.Proofs.Rule
open Bita Bita.Spec Bita.Proofs.CS Bita.Proofs.SpecChunks

variable {algo : Algo} {f : FilterConfig} {data w : Bytes} {n s i d q : Nat} {g : Hasher}

/-- The hasher is past its warm-up and its window is `w` (`n` bytes). -/
def HWin (algo : Algo) (n : Nat) (h : Hasher) (w : Bytes) : Prop :=
  match h with
  | .roll r => algo = .roll ∧ w.length = n ∧ RollOK r w
  | .buz b => algo = .buz ∧ ∃ fed, BuzOK b n fed ∧ fed.drop (fed.length - n) = w

theorem HWin_len (hw : HWin algo n g w) : w.length = n := by
  cases g with
  | roll r => exact hw.2.1
  | buz b =>
    obtain ⟨_, fed, ok, rfl⟩ := hw
    rw [List.length_drop, Nat.sub_sub_self ok.len]

theorem HWin_initDone (hw : HWin algo n g w) : g.initDone = true := by
  cases g with
  | roll r => rfl
  | buz b =>
    obtain ⟨_, fed, ok, _⟩ := hw
    exact ok.full

theorem HWin_sum (hw : HWin algo n g w) : g.sum = windowHash algo w := by
  cases g with
  | roll r =>
    obtain ⟨rfl, _, ok⟩ := hw
    exact RollOK_sum ok
  | buz b =>
    obtain ⟨rfl, fed, ok, rfl⟩ := hw
    exact ok.sum

theorem HWin_step (hn : 1 ≤ n) (hw : HWin algo n g w) (x : UInt8) :
    HWin algo n (g.input x) (w.tail ++ [x]) := by
  cases g with
  | roll r =>
    obtain ⟨rfl, hl, ok⟩ := hw
    refine ⟨rfl, ?_, RollOK_input ok (hl ▸ hn) x⟩
    rw [List.length_append, List.length_tail, hl]
    exact Nat.sub_add_cancel hn
  | buz b =>
    obtain ⟨rfl, fed, ok, rfl⟩ := hw
    refine ⟨rfl, fed ++ [x], BuzOK_input ok x, ?_⟩
    rw [List.length_append, List.length_singleton, lastN_snoc fed x hn ok.len]

/-- The hasher is past its warm-up, and behind its first `d` places its window is that of the stream
at position `q` (BuzHash: which lies behind the warm-up). -/
def HAt (algo : Algo) (n : Nat) (data : Bytes) (d q : Nat) (g : Hasher) : Prop :=
  (∃ w, HWin algo n g w ∧ w.drop d = (winAt n data q).drop d) ∧ (algo = .buz → n ≤ q)

theorem HAt_sum (h : HAt algo n data 0 q g) :
    g.sum = windowHash algo (winAt n data q) := by
  obtain ⟨⟨w, hw, e⟩, _⟩ := h
  rw [HWin_sum hw]; exact congrArg _ e

theorem HAt_forget (h : HAt algo n data d q g) (q' : Nat) (hq : q ≤ q') :
    HAt algo n data n q' g := by
  obtain ⟨⟨w, hw, _⟩, hb⟩ := h
  refine ⟨⟨w, hw, ?_⟩, fun a => Nat.le_trans (hb a) hq⟩
  rw [List.drop_eq_nil_of_le (Nat.le_of_eq (HWin_len hw)),
    List.drop_eq_nil_of_le (by rw [length_winAt]; exact Nat.min_le_left _ _)]

theorem HAt_step {b} (hn : 1 ≤ n) (h : HAt algo n data d q g)
    (hq : q < data.length) (hb : data.drop q = b :: data.drop (q + 1)) :
    HAt algo n data (d - 1) (q + 1) (g.input b) := by
  obtain ⟨⟨w, hw, e⟩, hbuz⟩ := h
  refine ⟨⟨_, HWin_step hn hw _, ?_⟩, fun a => Nat.le_succ_of_le (hbuz a)⟩
  rw [← winAt_succ hn hb]
  cases d with
  | zero => rw [show w = winAt n data q from e]
  | succ d =>
    have hl : (winAt n data q).length = w.length := by
      rw [HWin_len hw, length_winAt]; omega
    rw [Nat.add_sub_cancel, List.drop_append, List.drop_append, List.length_tail, List.length_tail,
      List.drop_tail, List.drop_tail, e, hl]

theorem HAt_of_BuzOK {b} (ok : BuzOK b n (data.take q)) (hq : q ≤ data.length) :
    HAt .buz n data 0 q (.buz b) := by
  have hl := List.length_take_of_le hq
  have hn : n ≤ q := hl ▸ ok.len
  refine ⟨⟨_, ⟨rfl, _, ok, rfl⟩, ?_⟩, fun _ => hn⟩
  rw [hl, winAt_of_le n data q hn, List.drop_take, Nat.sub_sub_self hn]

/-- The scan stands at offset `i` of the chunk that starts at `s`: either BuzHash is still warming
up, on the stream so far, or all but the first `d` places of the window are right, with `d` small
enough for the window to be whole at offset `minSize - 1`, where the first test is due. -/
def Scan (algo : Algo) (f : FilterConfig) (data : Bytes) (s i : Nat) (g : Hasher) : Prop :=
  (algo = .buz ∧ ∃ b, g = .buz b ∧ BuzWarm b f.window (data.take (s + i))) ∨
  ∃ d, HAt algo f.window data d (s + i) g ∧ (d = 0 ∨ i + d < f.minSize)

theorem Scan_of_BuzInv {b} (inv : BuzInv b f.window (data.take (s + i)))
    (hq : s + i ≤ data.length) : Scan .buz f data s i (.buz b) := by
  rcases inv with w | ok
  · exact .inl ⟨rfl, b, rfl, w⟩
  · exact .inr ⟨0, HAt_of_BuzOK ok hq, .inl rfl⟩

theorem Scan_new_roll (f : FilterConfig) (data : Bytes) :
    Scan .roll f data 0 0 (.roll (RollSum.new f.window)) :=
  .inr ⟨0, ⟨⟨_, ⟨rfl, List.length_replicate, RollOK_new _⟩, by simp [winAt]⟩, nofun⟩, .inl rfl⟩

theorem Scan_new_buz (f : FilterConfig) (data : Bytes) (h1 : 1 ≤ f.window) :
    Scan .buz f data 0 0 (.buz (BuzHash.new f.window)) :=
  Scan_of_BuzInv (.inl (BuzWarm_new _ h1)) (Nat.zero_le _)

/-- With the minimum size behind it the window is whole (or still warming up). -/
theorem Scan.restart (sc : Scan algo f data s i g) (hm : f.minSize ≤ i) :
    Scan algo f data (s + i) 0 g := by
  rcases sc with w | ⟨d, h, hd⟩
  · exact .inl w
  · obtain rfl : d = 0 := by omega
    exact .inr ⟨0, h, .inl rfl⟩

theorem Scan.need_le (sc : Scan algo f data s 0 g)
    (hwm : algo = .buz → f.window ≤ f.maxSize) : need g ≤ f.maxSize := by
  rcases sc with ⟨a, b, rfl, w⟩ | ⟨d, ⟨⟨w, hw, _⟩, _⟩, _⟩
  · -- a warm-up has at least one place to fill, so `window` is at least 1
    rw [need, w.full, if_neg Bool.false_ne_true, w.window]
    exact Nat.max_le.2 ⟨Nat.le_trans (Nat.succ_le_of_lt (Nat.zero_lt_of_lt w.len)) (hwm a),
      Nat.le_trans (Nat.sub_le _ _) (hwm a)⟩
  · rw [(need_eq_zero g).2 (HWin_initDone hw)]; exact Nat.zero_le _

theorem stepG_rule {b} (hv : f.Sane) (sc : Scan algo f data s i g) (hq : s + i < data.length)
    (hb : data.drop (s + i) = b :: data.drop (s + (i + 1))) :
    Scan algo f data s (i + 1) (stepG (RHParams.ofConfig f) g b i).1 ∧
    (stepG (RHParams.ofConfig f) g b i).2 =
      (decide (firstLen algo f s ≤ i + 1) &&
        allBitsSet (filterMask f.bits) (windowHash algo (winAt f.window data (s + (i + 1))))) := by
  -- the rule tests no length below the minimum size
  have hnt (h : i + 1 < f.minSize) : decide (firstLen algo f s ≤ i + 1) = false :=
    decide_eq_false (Nat.not_le_of_lt (Nat.lt_of_lt_of_le h
      (Nat.le_trans (Nat.le_max_left _ _) (le_firstLen ..))))
  rcases sc with ⟨rfl, z, rfl, w⟩ | ⟨d, h, hd⟩
  · -- warm-up: the byte goes to `init`; the rule tests nothing before stream position `window + 1`
    have hlo : ¬ firstLen .buz f s ≤ i + 1 := by
      have := buz_le_firstLen f s
      have := List.length_take_of_le (Nat.le_of_lt hq) ▸ w.len
      omega
    have w' := BuzWarm_init w b
    rw [show data.take (s + i) ++ [b] = data.take (s + (i + 1)) by
      rw [← Nat.add_assoc, List.take_add (j := 1), hb]; rfl] at w'
    rw [stepG_init (show (Hasher.buz z).initDone = false from w.full), decide_eq_false hlo]
    exact ⟨Scan_of_BuzInv w' hq, rfl⟩
  · obtain ⟨⟨w, hw, _⟩, hbuz⟩ := id h
    have h' := HAt_step hv.win1 h hq hb
    rw [Nat.add_assoc] at h'
    rw [stepG_done (HWin_initDone hw)]
    fun_cases stepD (RHParams.ofConfig f) g b i with
    | case1 h1 =>
      -- passed over: the hasher keeps its window and loses its place
      rw [limit_ofConfig, Nat.lt_sub_iff_add_lt] at h1
      rw [hnt (Nat.lt_of_le_of_lt (Nat.le_add_right _ _) h1)]
      exact ⟨.inr ⟨_, HAt_forget h _ (Nat.le_succ _), .inr h1⟩, rfl⟩
    | case2 h1 h2 =>
      rw [hnt h2]
      exact ⟨.inr ⟨_, h', by omega⟩, rfl⟩
    | case3 h1 h2 =>
      -- tested: by now the window is whole, so the sum is the rule's hash
      have h2 : f.minSize ≤ i + 1 := Nat.le_of_not_lt h2
      have hlo : firstLen algo f s ≤ i + 1 :=
        firstLen_le (Nat.max_le.2 ⟨h2, Nat.succ_pos i⟩) fun a => Nat.succ_le_succ (hbuz a)
      obtain rfl : d = 0 := by omega
      rw [decide_eq_true hlo, HAt_sum h']
      exact ⟨.inr ⟨_, h', .inl rfl⟩, rfl⟩

/-- What the rule makes of the chunk that starts at `s` once all lengths up to `i` are ruled out. -/
def cutAfter (algo : Algo) (f : FilterConfig) (data : Bytes) (s i : Nat) : Option Nat :=
  match firstBoundary algo f.window (filterMask f.bits) data s (max (i + 1) (firstLen algo f s))
      (min f.maxSize (data.length - s) + 1 - max (i + 1) (firstLen algo f s)) with
  | some L => some L
  | none => if f.maxSize ≤ data.length - s then some f.maxSize else none

theorem specCut_eq_cutAfter (algo : Algo) (f : FilterConfig) (data : Bytes) (s : Nat) :
    specCut algo f data s = cutAfter algo f data s 0 := by
  rw [cutAfter, Nat.max_eq_right (Nat.le_trans (Nat.le_max_right _ _) (le_firstLen algo f s))]
  exact specCut_eq algo f data s

theorem firstBoundary_range {mask lo hi} (h : lo ≤ hi) :
    firstBoundary algo n mask data s lo (hi + 1 - lo) =
      if allBitsSet mask (windowHash algo (winAt n data (s + lo))) then some lo
      else firstBoundary algo n mask data s (lo + 1) (hi + 1 - (lo + 1)) := by
  rw [sub_eq_succ (Nat.lt_succ_of_le h), firstBoundary]

theorem firstBoundary_empty {mask lo hi} (h : hi < lo) :
    firstBoundary algo n mask data s lo (hi + 1 - lo) = none := by
  rw [Nat.sub_eq_zero_of_le h, firstBoundary]

theorem cutAfter_max (hs : s + f.maxSize ≤ data.length) :
    cutAfter algo f data s f.maxSize = some f.maxSize := by
  rw [cutAfter, firstBoundary_empty (Nat.lt_of_le_of_lt (Nat.min_le_left _ _) (Nat.le_max_left _ _)),
    if_pos (Nat.le_sub_of_add_le' hs)]

theorem cutAfter_end (he : data.length ≤ s + i) (hi : i < f.maxSize) :
    cutAfter algo f data s i = none := by
  have hr : data.length - s ≤ i := Nat.sub_le_iff_le_add'.2 he
  rw [cutAfter, firstBoundary_empty (Nat.lt_of_le_of_lt (Nat.le_trans (Nat.min_le_right _ _) hr)
    (Nat.le_max_left _ _)), if_neg (Nat.not_le_of_lt (Nat.lt_of_le_of_lt hr hi))]

theorem cutAfter_step (hm : i < f.maxSize) (hq : s + i < data.length) :
    cutAfter algo f data s i =
      if (decide (firstLen algo f s ≤ i + 1) && allBitsSet (filterMask f.bits)
          (windowHash algo (winAt f.window data (s + (i + 1))))) = true then some (i + 1)
      else cutAfter algo f data s (i + 1) := by
  rw [cutAfter, cutAfter]
  by_cases hlo : firstLen algo f s ≤ i + 1
  · rw [decide_eq_true hlo, Bool.true_and, Nat.max_eq_left hlo,
      Nat.max_eq_left (Nat.le_succ_of_le hlo),
      firstBoundary_range (Nat.le_min.2 ⟨hm, Nat.le_sub_of_add_le' hq⟩)]
    by_cases ht : allBitsSet (filterMask f.bits) (windowHash algo (winAt f.window data (s + (i + 1))))
    · rw [if_pos ht, if_pos ht]
    · rw [if_neg ht, if_neg ht]
  · have hlt := Nat.lt_of_not_le hlo
    rw [decide_eq_false hlo, Bool.false_and, if_neg Bool.false_ne_true, Nat.max_eq_right hlt,
      Nat.max_eq_right (Nat.le_of_lt hlt)]

/-- A rolling chunker with the parameters of `f`, between chunks, its hasher ready for the chunk
that starts at `s`. -/
def RollingAt (algo : Algo) (f : FilterConfig) (data : Bytes) (s : Nat) (c : Chunker) : Prop :=
  ∃ h, c = .rolling (RHParams.ofConfig f) ⟨h, 0⟩ ∧ Scan algo f data s 0 h

/-- `r`, the answer of a `next` for the chunk that starts at `s`, is `o`: that cut, with a chunker
that `St` holds of at the next chunk start, or none. -/
def Answer (St : Nat → Chunker → Prop) (s : Nat) (o : Option Nat) (r : Chunker × Option Nat) : Prop :=
  match o with
  | some L => ∃ c', r = (c', some L) ∧ St (s + L) c'
  | none => ∃ c', r = (c', none)

theorem Answer.cut {L g'} (h : Scan algo f data (s + L) 0 g') :
    Answer (RollingAt algo f data) s (some L) (.rolling (RHParams.ofConfig f) ⟨g', 0⟩, some L) :=
  ⟨_, rfl, g', rfl, h⟩

theorem Answer.more {St s c'} : Answer St s none (c', none) :=
  ⟨c', rfl⟩

-- From here on `cutAfter` is used through its lemmas only.  Sealed, because `Answer` matches on it and
-- the elaborator would run the search each time it looks at a goal `Answer .. (cutAfter ..) ..`.
seal cutAfter

theorem mach_rule (hv : f.Sane) (k : Nat)
    (sc : Scan algo f data s i g) (hs : s + i ≤ data.length) (hk : i + k = f.maxSize) :
    Answer (RollingAt algo f data) s (cutAfter algo f data s i)
      (.rolling (RHParams.ofConfig f) (mach (RHParams.ofConfig f) g (data.drop (s + i)) i).1,
        (mach (RHParams.ofConfig f) g (data.drop (s + i)) i).2) := by
  induction k generalizing i g with
  | zero =>
    obtain rfl : i = f.maxSize := hk
    rw [cutAfter_max hs, mach_max (p := .ofConfig f) (i := f.maxSize) (Nat.le_refl _)]
    exact .cut (sc.restart hv.mm)
  | succ k ih =>
    have hi : i < f.maxSize := by omega
    have hm : ¬ (RHParams.ofConfig f).maxSize ≤ i := Nat.not_le_of_lt hi
    by_cases he : data.length ≤ s + i
    · rw [cutAfter_end he hi, List.drop_eq_nil_of_le he, mach_nil, if_neg hm]
      exact .more
    · have hq := Nat.lt_of_not_le he
      obtain ⟨b, hb⟩ : ∃ b, data.drop (s + i) = b :: data.drop (s + (i + 1)) :=
        ⟨_, List.drop_eq_getElem_cons hq⟩
      obtain ⟨sc', e⟩ := stepG_rule hv sc hq hb
      have ih' := ih sc' hq (by omega)
      rw [hb, mach_cons hm, cutAfter_step hi hq, ← e]
      cases ht : (stepG (RHParams.ofConfig f) g b i).2 with
      | false => exact ih'
      | true =>
        -- a length the rule tests is at least the minimum size
        have hlo := of_decide_eq_true (Bool.and_eq_true_iff.1 (e ▸ ht)).1
        exact .cut (sc'.restart (Nat.le_trans (Nat.le_max_left _ _)
          (Nat.le_trans (le_firstLen algo f s) hlo)))

theorem next_spec {c} (hv : f.Sane) (hwm : algo = .buz → f.window ≤ f.maxSize)
    (hs : s < data.length) (st : RollingAt algo f data s c) :
    Answer (RollingAt algo f data) s (specCut algo f data s)
      (c.next (data.drop s) (data.length - s)) := by
  obtain ⟨h, rfl, sc⟩ := st
  have hr := mach_rule hv f.maxSize sc (Nat.le_of_lt hs) (Nat.zero_add _)
  have e := next_eq_mach (POK_ofConfig f hv) (g := h) (rest := data.drop s)
    (Nat.zero_le (data.length - s)) (by simp) (by rw [Nat.zero_add]; exact sc.need_le hwm)
  rw [List.drop_zero, List.take_of_length_le (by simp)] at e
  rwa [Nat.add_zero, ← e, ← next_rolling, ← specCut_eq_cutAfter] at hr

end Bita.Proofs.Rule
