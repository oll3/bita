/-
  Keys (truncated strong hashes) and the content function of a clone: unless a collision is
  exhibited, every key that occurs identifies one byte string.
-/
import Bita.Model.Clone
import Bita.Spec.ArchiveSpec
import Bita.Proofs.HashTruncate

namespace Bita.Proofs
open Bita Bita.Spec

/-- The key of a chunk: its strong hash truncated to the archive's hash length. -/
abbrev ckey (H : Bytes → Bytes) (hl : Nat) (x : Bytes) : Bytes := hashTruncate (H x) hl

theorem length_ckey {H : Bytes → Bytes} (hH : ∀ x, (H x).length = 64) {hl : Nat} (h : hl ≤ 64)
    (x : Bytes) : (ckey H hl x).length = hl := by
  rw [ckey, length_hashTruncate, hH]
  exact Nat.min_eq_left h

/-- The byte string a key stands for: the first listed chunk with that key. -/
def contentOf (key : Bytes → Bytes) (cs : List Bytes) (k : Bytes) : Bytes :=
  (cs.find? (fun c => key c = k)).getD []

theorem contentOf_key {key : Bytes → Bytes} {cs : List Bytes}
    (hg : ∀ y ∈ cs, ∀ x, key x = key y → x = y) :
    ∀ c ∈ cs, contentOf key cs (key c) = c := by
  intro c hc
  unfold contentOf
  -- `c` itself has the key; whatever is found first has it too, so is `c`
  cases h : cs.find? (fun c' => key c' = key c) with
  | none => exact absurd (decide_eq_true rfl) (List.find?_eq_none.1 h c hc)
  | some c' => exact hg c hc c' (of_decide_eq_true (List.find?_some h :))

theorem good_of_no_collision {H : Bytes → Bytes} {hl : Nat} {cks : List Bytes}
    (hc : ¬ Collision H hl cks) :
    ∀ y ∈ cks, ∀ x, ckey H hl x = ckey H hl y → x = y :=
  fun y hy x hk => Classical.byContradiction fun hne => hc ⟨x, y, hy, hne, hk⟩

end Bita.Proofs
