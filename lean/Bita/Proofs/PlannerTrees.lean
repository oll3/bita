/-
  The planner across trees.  `reorderOps` is a fold of DFS trees over the movable chunks
  (`treeStep`); for the indexes of a prior tiling `O` and a target tiling `N` the initial layout
  holds exactly the first regions of the movable chunks, a finished tree removes exactly its
  visited chunks, and the invariant `J` of the fold gives `safePlan` (`planner_sound`: C03 T1).
-/
import Bita.Proofs.TilingIndex
import Bita.Proofs.PlannerOverlap
import Bita.Proofs.PlannerDfs

namespace Bita.Proofs.Planner
open Bita Bita.Spec Bita.Proofs.Exec

variable {κ : Type} [DecidableEq κ]

def movableOf (self tgt : Index κ) : Index κ :=
  self.filter (fun e => tgt.contains e.1 && !e.2.offsets.isEmpty)

/-- The layout entry and the root chunk that `reorderOps` makes of a movable index entry. -/
def entryOfLoc (m : κ × Loc) : ChunkOffset × κ := (⟨m.2.offsets.headD 0, m.2.size⟩, m.1)

def layout0Of (self tgt : Index κ) : Layout κ :=
  (movableOf self tgt).foldl (fun lay e => lay.insert ⟨e.2.offsets.headD 0, e.2.size⟩ e.1) []

def moveChunksOf (self tgt : Index κ) : List (MoveChunk κ) :=
  sortBySource ((movableOf self tgt).map
    (fun e => (⟨e.1, e.2.size, e.2.offsets.headD 0⟩ : MoveChunk κ)))

def removeVisited (self : Index κ) (vis : List κ) (lay : Layout κ) : Layout κ :=
  vis.foldl (fun lay k =>
    match self.get k with
    | some l => l.offsets.foldl (fun lay o => Layout.remove lay ⟨o, l.size⟩) lay
    | none => lay) lay

def treeStep (self newOrder : Index κ) (fuel : Nat) (acc : List (ROp κ) × List κ × Layout κ)
    (chunk : MoveChunk κ) : List (ROp κ) × List κ × Layout κ :=
  if acc.2.1.contains chunk.k then acc
  else
    let fin := dfsRun self newOrder acc.2.2 fuel ⟨[(chunk, none)], [], acc.1⟩
    (fin.ops, fin.visited ++ acc.2.1, removeVisited self fin.visited acc.2.2)

theorem reorderOps_eq (self newOrder : Index κ) :
    reorderOps self newOrder =
      ((moveChunksOf self newOrder).foldl
        (treeStep self newOrder (dfsFuel newOrder (layout0Of self newOrder)))
        ([], [], layout0Of self newOrder)).1 := by
  rfl

section
omit [DecidableEq κ]

theorem sortBySource_ins_mem {c d : MoveChunk κ} {l : List (MoveChunk κ)} :
    d ∈ sortBySource.ins c l ↔ d = c ∨ d ∈ l := by
  induction l with
  | nil => simp [sortBySource.ins]
  | cons x xs ih =>
    unfold sortBySource.ins
    split
    · exact List.mem_cons
    · rw [List.mem_cons, ih, List.mem_cons]; exact or_left_comm

theorem mem_sortBySource {d : MoveChunk κ} {l : List (MoveChunk κ)} :
    d ∈ sortBySource l ↔ d ∈ l := by
  induction l with
  | nil => simp [sortBySource]
  | cons x xs ih => simp [sortBySource, sortBySource_ins_mem, ih]

end

theorem foldl_filter {α β : Type} (p : β → α → Bool) (xs : List β) (l : List α) :
    xs.foldl (fun l x => l.filter (p x)) l = l.filter (fun a => xs.all fun x => p x a) := by
  induction xs generalizing l with
  | nil => exact (List.filter_eq_self.2 fun _ _ => rfl).symm
  | cons x xs ih =>
    rw [List.foldl_cons, ih, List.filter_filter]
    simp only [List.all_cons, Bool.and_comm]

theorem removeVisited_eq (self : Index κ) (vis : List κ) (lay : Layout κ) :
    removeVisited self vis lay = lay.filter (fun e => vis.all fun k =>
      match self.get k with
      | some l => l.offsets.all fun o => decide (e.1 ≠ ⟨o, l.size⟩)
      | none => true) := by
  rw [← foldl_filter]
  unfold removeVisited
  congr 1
  funext lay k
  cases self.get k with
  | none => exact (List.filter_eq_self.2 fun _ _ => rfl).symm
  | some l => exact foldl_filter (fun o e => decide (e.1 ≠ ⟨o, l.size⟩)) l.offsets lay

theorem removeVisited_sublist (self : Index κ) (vis : List κ) (lay : Layout κ) :
    (removeVisited self vis lay).Sublist lay := by
  rw [removeVisited_eq]; exact List.filter_sublist

theorem orderedFrom_append (content : κ → Bytes) (PO : List (κ × Nat)) (mov : List κ) (seen : List κ)
    (a b : List (ROp κ)) :
    orderedFrom content PO mov seen (a ++ b) =
      (orderedFrom content PO mov seen a &&
        orderedFrom content PO mov ((a.map opKey).reverse ++ seen) b) := by
  induction a generalizing seen with
  | nil => simp [orderedFrom]
  | cons op a ih =>
    simp only [List.cons_append, orderedFrom, ih, List.map_cons, List.reverse_cons,
      List.append_assoc, Bool.and_assoc, List.nil_append]

theorem orderedFrom_of_forall {content : κ → Bytes} {PO : List (κ × Nat)} {mov seen : List κ}
    {ops : List (ROp κ)}
    (h : ∀ pre z sz src d post, ops = pre ++ ROp.copy z sz src d :: post →
      ∀ d' ∈ d, ∀ y ∈ mov, y ≠ z → ∀ fy, firstOff PO y = some fy →
        overlap fy (content y).length d' (content z).length = true →
          y ∈ (pre.map opKey).reverse ++ seen) :
    orderedFrom content PO mov seen ops = true := by
  induction ops generalizing seen with
  | nil => rfl
  | cons op ops ih =>
    have ih := ih (seen := opKey op :: seen) fun pre z sz src d post hdec => by
      have := h (op :: pre) z sz src d post (congrArg (op :: ·) hdec)
      rwa [List.map_cons, List.reverse_cons, List.append_assoc] at this
    cases op with
    | store k sz src => exact ih
    | copy z sz src d =>
      refine orderedFrom_copy.2 ⟨fun d' hd' y hy => ?_, ih⟩
      refine Decidable.or_iff_not_imp_left.2 fun hyz =>
        Decidable.or_iff_not_imp_left.2 fun hys fy hfy => Bool.eq_false_iff.2 fun hov => ?_
      exact hys (h [] z sz src d ops rfl d' hd' y hy hyz fy hfy hov)

section setting
variable (content : κ → Bytes) (O N : List κ)

/-- The target index after `strip`: what `reorder_in_place` plans for. -/
def targetIx : Index κ := ((indexOf content O).strip (indexOf content N)).1

/-- First offset of `k` in the prior file (what the planner reads via `.unwrap()`). -/
def fo (k : κ) : Nat := firstD (indexOf content O) k

/-- The layout entry of a movable key. -/
def entryOf (k : κ) : ChunkOffset × κ := (⟨fo content O k, (content k).length⟩, k)

variable {content O N} (hO : ∀ k ∈ O, content k ≠ [])
include hO

theorem firstOff_fo {k : κ} (hk : k ∈ O) :
    firstOff (placements content O 0) k = some (fo content O k) := by
  unfold fo firstD
  rw [indexOf_firstOffset hO k, firstOff_eq_head?]
  cases h : offs (placements content O 0) k with
  | nil => exact absurd hk ((offs_placements_eq_nil content O 0 k).1 h)
  | cons a as => rfl

theorem fo_mem {k : κ} (hk : k ∈ O) :
    (k, fo content O k) ∈ placements content O 0 := firstOff_mem (firstOff_fo hO hk)

theorem removeVisited_filter {vis : List κ} {lay : Layout κ}
    (hlay : ∀ e ∈ lay, ∃ k ∈ movable content O N, e = entryOf content O k)
    (hvis : ∀ k ∈ vis, k ∈ O) :
    removeVisited (indexOf content O) vis lay = lay.filter fun e => !vis.contains e.2 := by
  rw [removeVisited_eq]
  refine List.filter_congr fun e he => ?_
  obtain ⟨k', hk', rfl⟩ := hlay e he
  have hfo := fo_mem hO (mem_movable.1 hk').1
  rw [Bool.eq_iff_iff, List.all_eq_true, Bool.not_eq_true', List.contains_eq_mem,
    decide_eq_false_iff_not,
    forall₂_congr fun k hk => by rw [indexOf_get_of_mem hO (hvis k hk)]]
  -- no region of a visited `k` is the first region of `k'`, that is, `k'` is not visited
  simp only [List.all_eq_true, decide_eq_true_eq, entryOf, ne_eq, ChunkOffset.mk.injEq, not_and]
  constructor
  · exact fun h hv => h k' hv _ (mem_offs.2 hfo) rfl rfl
  · rintro h k hk _ ho rfl -
    exact h (placements_functional hO hfo (mem_offs.1 ho) ▸ hk)

variable (hN : ∀ k ∈ N, content k ≠ [])
include hN

theorem targetIx_get {k : κ} (hk : k ∈ movable content O N) :
    (targetIx content O N).get k =
      some ⟨(content k).length, dests (placements content O 0) (placements content N 0) k⟩ :=
  (strip_get hO hN k).trans (if_neg (mem_movable.1 hk).2)

theorem opOk_of_entry {k : κ} (hk : k ∈ movable content O N) {op : ROp κ}
    (h : op = mkStore (indexOf content O) (entryOf content O k) ∨
      op = copyOf (targetIx content O N) (mkChild (indexOf content O) (entryOf content O k))) :
    OpOk content O N op := by
  have hfo := firstOff_fo hO (mem_movable.1 hk).1
  rcases h with rfl | rfl
  · exact ⟨hk, rfl, hfo⟩
  · refine ⟨hk, rfl, hfo, ?_⟩
    show destsOf _ k = dests _ _ k
    rw [destsOf, targetIx_get hO hN hk]

theorem mem_movableOf
    (m : κ × Loc) :
    m ∈ movableOf (indexOf content O) (targetIx content O N) ↔
      m.1 ∈ movable content O N ∧
        m.2 = ⟨(content m.1).length, offs (placements content O 0) m.1⟩ := by
  obtain ⟨k, l⟩ := m
  simp only [movableOf, List.mem_filter, Bool.and_eq_true, Index.contains, targetIx,
    strip_get hO hN, mem_movable]
  constructor
  · rintro ⟨hm, hc, -⟩
    obtain ⟨hl, hk⟩ := mem_indexOf content O hO _ hm
    exact ⟨⟨hk, fun hd => by simp [hd] at hc⟩, hl⟩
  · rintro ⟨⟨hk, hd⟩, hl⟩
    subst hl
    refine ⟨mem_of_get (indexOf_get_of_mem hO hk), by simp [hd], ?_⟩
    simpa using fun h => (offs_placements_eq_nil content O 0 k).1 h hk

theorem entryOfLoc_movable
    {m : κ × Loc} (hm : m ∈ movableOf (indexOf content O) (targetIx content O N)) :
    m.1 ∈ movable content O N ∧ entryOfLoc m = entryOf content O m.1 := by
  obtain ⟨hk, hl⟩ := (mem_movableOf hO hN m).1 hm
  refine ⟨hk, ?_⟩
  have h := firstOff_fo hO (mem_movable.1 hk).1
  rw [firstOff_eq_head?] at h
  rw [entryOfLoc, hl, List.headD_eq_head?_getD, h]; rfl

theorem exists_movableOf {p : ChunkOffset × κ → Prop} :
    (∃ m ∈ movableOf (indexOf content O) (targetIx content O N), p (entryOfLoc m)) ↔
      ∃ k ∈ movable content O N, p (entryOf content O k) := by
  constructor
  · rintro ⟨m, hm, hp⟩
    obtain ⟨hk, he⟩ := entryOfLoc_movable hO hN hm
    exact ⟨m.1, hk, he ▸ hp⟩
  · rintro ⟨k, hk, hp⟩
    have hm := (mem_movableOf hO hN (k, ⟨(content k).length, offs (placements content O 0) k⟩)).2
      ⟨hk, rfl⟩
    exact ⟨_, hm, (entryOfLoc_movable hO hN hm).2 ▸ hp⟩

theorem layout0_facts :
    Disj (layout0Of (indexOf content O) (targetIx content O N)) ∧
    ∀ e, e ∈ layout0Of (indexOf content O) (targetIx content O N) ↔
      ∃ k ∈ movable content O N, e = entryOf content O k := by
  have hm : ∀ m ∈ movableOf (indexOf content O) (targetIx content O N),
      m.1 ∈ O ∧ entryOfLoc m = entryOf content O m.1 :=
    fun m hm => (entryOfLoc_movable hO hN hm).imp_left fun h => (mem_movable.1 h).1
  have hnd : ((movableOf (indexOf content O) (targetIx content O N)).map (·.1)).Nodup :=
    (indexOf_rep hO).nodup.sublist (List.filter_sublist.map _)
  obtain ⟨h1, h2⟩ := foldl_insert_spec entryOfLoc
    (ms := movableOf (indexOf content O) (targetIx content O N)) (lay := [])
    (hd := List.Pairwise.nil) (hpos := fun _ h => nomatch h) (hlm := fun _ h => nomatch h)
    (hmpos := fun m h => by rw [(hm m h).2]; exact List.length_pos_iff.2 (hO _ (hm m h).1))
    (hmm := (List.pairwise_map.1 hnd).imp_of_mem fun {a b} ha hb hab => by
      rw [(hm a ha).2, (hm b hb).2]
      exact (placements_disjoint content O 0 _ (fo_mem hO (hm a ha).1) _
        (fo_mem hO (hm b hb).1)).resolve_left fun h => hab (Prod.mk.inj h).1)
  exact ⟨h1, fun e => (h2 e).trans ((or_iff_right List.not_mem_nil).trans
    (exists_movableOf hO hN (p := (e = ·))))⟩

theorem mem_chunks {c : MoveChunk κ} :
    c ∈ moveChunksOf (indexOf content O) (targetIx content O N) ↔
      ∃ k ∈ movable content O N, mkChild (indexOf content O) (entryOf content O k) = c := by
  rw [moveChunksOf, mem_sortBySource, List.mem_map]
  exact exists_movableOf hO hN (p := fun e => (⟨e.2, e.1.size, e.1.offset⟩ : MoveChunk κ) = c)

end setting

section main
variable (content : κ → Bytes) (O N : List κ)

/-- One tree of the plan for `O`, `N`. -/
def planStep : List (ROp κ) × List κ × Layout κ → MoveChunk κ → List (ROp κ) × List κ × Layout κ :=
  treeStep (indexOf content O) (targetIx content O N)
    (dfsFuel (targetIx content O N) (layout0Of (indexOf content O) (targetIx content O N)))

/-- The invariant of the fold over the trees; `acc` is (operations so far, keys visited, layout).
`lay`: the layout is the initial one without the entries of the visited keys.  `proc`, `nd`: the
visited keys are the keys copied so far, each copied once.  `valid`: every operation is the store
or the copy of a movable key, with that key's size, first prior offset and destinations (`OpOk`).
`ord`: the operations so far are ordered as `safePlan` asks. -/
structure J (acc : List (ROp κ) × List κ × Layout κ) : Prop where
  lay : acc.2.2 = (layout0Of (indexOf content O) (targetIx content O N)).filter
    fun e => !acc.2.1.contains e.2
  proc : ∀ k, k ∈ acc.2.1 ↔ k ∈ copiesOf acc.1
  nd : (copiesOf acc.1).Nodup
  valid : ∀ op ∈ acc.1, OpOk content O N op
  ord : orderedFrom content (placements content O 0) (movable content O N) [] acc.1 = true

variable {content O N}

omit [DecidableEq κ] in
theorem copiesOf_append (a b : List (ROp κ)) : copiesOf (a ++ b) = copiesOf a ++ copiesOf b := by
  simp [copiesOf]

omit [DecidableEq κ] in
theorem fuel_ok {newOrder : Index κ} {lay lay0 : Layout κ} (h : lay.length ≤ lay0.length) :
    1 + 2 * (lay.length + (newOrder.map (·.2.offsets.length)).sum * lay.length) ≤
      dfsFuel newOrder lay0 := by
  unfold dfsFuel
  have := Nat.mul_le_mul_left (newOrder.map (·.2.offsets.length)).sum h
  omega

variable (hO : ∀ k ∈ O, content k ≠ []) (hN : ∀ k ∈ N, content k ≠ [])
include hO hN

theorem J.mem_lay {acc : List (ROp κ) × List κ × Layout κ} (hJ : J content O N acc)
    {e : ChunkOffset × κ} :
    e ∈ acc.2.2 ↔ ∃ k ∈ movable content O N, k ∉ acc.2.1 ∧ e = entryOf content O k := by
  rw [hJ.lay, List.mem_filter, (layout0_facts hO hN).2]
  constructor
  · rintro ⟨⟨k, hk, rfl⟩, hp⟩
    exact ⟨k, hk, by simpa [entryOf] using hp, rfl⟩
  · rintro ⟨k, hk, hp, rfl⟩
    exact ⟨⟨k, hk, rfl⟩, by simpa [entryOf] using hp⟩

theorem J_step {acc : List (ROp κ) × List κ × Layout κ} (hJ : J content O N acc)
    {c : MoveChunk κ} (hc : c ∈ moveChunksOf (indexOf content O) (targetIx content O N)) :
    J content O N (planStep content O N acc c) ∧
    (∀ k ∈ acc.2.1, k ∈ (planStep content O N acc c).2.1) ∧
    c.k ∈ (planStep content O N acc c).2.1 := by
  unfold planStep treeStep
  by_cases hcp : acc.2.1.contains c.k = true
  · rw [if_pos hcp]
    exact ⟨hJ, fun k hk => hk, List.contains_iff_mem.1 hcp⟩
  rw [if_neg hcp]
  obtain ⟨k0, hk0, rfl⟩ := (mem_chunks hO hN).mp hc
  have hsub : acc.2.2.Sublist (layout0Of (indexOf content O) (targetIx content O N)) := by
    rw [hJ.lay]; exact List.filter_sublist
  obtain ⟨new, vis, hops, hvis, hnd, hck, hrt, hvl, hval, hord⟩ :=
    dfs_tree (indexOf content O) (targetIx content O N) acc.1 _
      ((hJ.mem_lay hO hN).2 ⟨k0, hk0, fun h => hcp (List.contains_iff_mem.2 h), rfl⟩)
      (fuel_ok hsub.length_le)
  simp only [hops, hvis]
  have hvm : ∀ k ∈ vis, k ∈ movable content O N ∧ k ∉ acc.2.1 := fun k hk => by
    obtain ⟨x, hx, rfl⟩ := hvl k hk
    obtain ⟨k', hk', hnp, rfl⟩ := (hJ.mem_lay hO hN).1 hx
    exact ⟨hk', hnp⟩
  have hok : ∀ op ∈ new, OpOk content O N op := fun op hop => by
    obtain ⟨x, hx, h⟩ := hval op hop
    obtain ⟨k, hk, -, rfl⟩ := (hJ.mem_lay hO hN).1 hx
    exact opOk_of_entry hO hN hk h
  refine ⟨⟨?_, fun k => ?_, ?_, fun op hop => ?_, ?_⟩, fun k => List.mem_append_right _,
    List.mem_append_left _ hrt⟩
  · show removeVisited _ vis acc.2.2 = _
    rw [removeVisited_filter hO
      (fun e he => ((hJ.mem_lay hO hN).1 he).imp fun k h => ⟨h.1, h.2.2⟩)
      (fun k hk => (mem_movable.1 (hvm k hk).1).1), hJ.lay, List.filter_filter]
    exact List.filter_congr fun e _ => by rw [List.contains_append, Bool.not_or, Bool.and_comm]
  · rw [copiesOf_append, List.mem_append, List.mem_append, hck k, hJ.proc k]
    exact Or.comm
  · rw [copiesOf_append, List.nodup_append]
    refine ⟨hJ.nd, hnd, fun a ha b hb hab => ?_⟩
    subst hab
    exact (hvm a ((hck a).mp hb)).2 ((hJ.proc a).mpr ha)
  · exact (List.mem_append.1 hop).elim (hJ.valid op) (hok op)
  · show orderedFrom _ _ _ [] (acc.1 ++ new) = true
    rw [orderedFrom_append, hJ.ord, Bool.true_and]
    refine orderedFrom_of_forall fun pre z sz src d post hdec d' hd' y hy hyz fy hfy hov => ?_
    by_cases hyp : y ∈ acc.2.1
    · exact List.mem_append_right _ (List.mem_append_left _ (List.mem_reverse.2
        ((List.filter_sublist.map _).subset ((hJ.proc y).1 hyp))))
    -- the copy of `z` to `d'` overwrites the region of `y`, which the layout still holds
    obtain ⟨hz, -, -, rfl⟩ := hok _ (hdec ▸ List.mem_append_right _ List.mem_cons_self)
    cases (firstOff_fo hO (mem_movable.1 hy).1).symm.trans hfy
    simp only [overlap, Bool.and_eq_true, decide_eq_true_eq] at hov
    obtain ⟨op, hop, hk⟩ := hord hdec (entryOf content O y) (mem_clobE_iff.2
      ⟨_, targetIx_get hO hN hz, d', hd',
        (mem_overlapping ((layout0_facts hO hN).1.sublist hsub) _ _).2
          ⟨(hJ.mem_lay hO hN).2 ⟨y, hy, hyp, rfl⟩, hov.1, hov.2⟩, hyz⟩)
    exact List.mem_append_left _ (List.mem_reverse.2 (List.mem_map.2 ⟨op, hop, hk⟩))

theorem J_fold (cs : List (MoveChunk κ))
    (hcs : ∀ c ∈ cs, c ∈ moveChunksOf (indexOf content O) (targetIx content O N))
    {acc : List (ROp κ) × List κ × Layout κ} (hJ : J content O N acc) :
    J content O N (cs.foldl (planStep content O N) acc) ∧
    (∀ k ∈ acc.2.1, k ∈ (cs.foldl (planStep content O N) acc).2.1) ∧
    ∀ c ∈ cs, c.k ∈ (cs.foldl (planStep content O N) acc).2.1 := by
  induction cs generalizing acc with
  | nil => exact ⟨hJ, fun k hk => hk, by simp⟩
  | cons c cs ih =>
    simp only [List.foldl_cons]
    obtain ⟨s1, s2, s3⟩ := J_step hO hN hJ (hcs c List.mem_cons_self)
    obtain ⟨i1, i2, i3⟩ := ih (fun c' hc' => hcs c' (List.mem_cons_of_mem _ hc')) s1
    refine ⟨i1, fun k hk => i2 k (s2 k hk), ?_⟩
    intro c' hc'
    rcases List.mem_cons.mp hc' with rfl | hc'
    · exact i2 _ s3
    · exact i3 c' hc'

end main

end Bita.Proofs.Planner

namespace Bita.Proofs
open Bita Bita.Spec Bita.Proofs.Planner Bita.Proofs.Exec

variable {κ : Type} [DecidableEq κ]

theorem planner_sound (content : κ → Bytes) (O N : List κ)
    (hne : ∀ k, k ∈ O ∨ k ∈ N → content k ≠ []) :
    safePlan content O N
      (reorderOps (indexOf content O) ((indexOf content O).strip (indexOf content N)).1) = true := by
  have hO : ∀ k ∈ O, content k ≠ [] := fun k hk => hne k (Or.inl hk)
  have hN : ∀ k ∈ N, content k ≠ [] := fun k hk => hne k (Or.inr hk)
  have hJ0 : J content O N ([], [], layout0Of (indexOf content O) (targetIx content O N)) :=
    ⟨(List.filter_eq_self.2 fun _ _ => rfl).symm, fun _ => Iff.rfl, List.nodup_nil, fun _ h => (nomatch h), rfl⟩
  obtain ⟨hJ, -, hall⟩ := J_fold hO hN (moveChunksOf (indexOf content O) (targetIx content O N))
    (fun c hc => hc) hJ0
  rw [reorderOps_eq]
  exact (safePlan_iff content O N _).2 ⟨hJ.valid, hJ.nd,
    fun k hk => (hJ.proc k).mp (hall _ ((mem_chunks hO hN).mpr ⟨k, hk, rfl⟩)), hJ.ord⟩

end Bita.Proofs
