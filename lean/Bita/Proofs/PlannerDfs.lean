/-
  The DFS of the model (`dfsStep`/`dfsRun`) projects to the abstract machine of PlannerDfsAbs as
  long as expanded stack entries carry the copy of their chunk (`CInv`, `sim_run`); with the
  weight `wgt` for the fuel this gives what one tree of `reorder_ops` delivers (`dfs_tree`).
-/
import Bita.Proofs.PlannerDfsAbs
import Bita.Proofs.PlannerOverlap
import Bita.Proofs.TilingIndex

namespace Bita.Proofs.Planner
open Bita Bita.Spec Bita.Proofs.Exec

variable {κ : Type} [DecidableEq κ]

/-- `first_offset(k).unwrap()` of the planner, with `0` where the source would panic. -/
def firstD (self : Index κ) (k : κ) : Nat := (self.firstOffset k).getD 0

/-- The layout entries that copying `z` to its target offsets overwrites, in the order in which
`expand` meets them. -/
def clobE (newOrder : Index κ) (lay : Layout κ) (z : κ) : List (ChunkOffset × κ) :=
  match newOrder.get z with
  | none => []
  | some loc => loc.offsets.flatMap (fun t => (lay.overlapping ⟨t, loc.size⟩).filter (fun e => e.2 ≠ z))

/-- Their keys: the clobber relation of the abstract machine. -/
def clobK (newOrder : Index κ) (lay : Layout κ) (z : κ) : List κ := (clobE newOrder lay z).map (·.2)

def destsOf (newOrder : Index κ) (z : κ) : List Nat :=
  match newOrder.get z with
  | none => []
  | some loc => loc.offsets

def mkStore (self : Index κ) (e : ChunkOffset × κ) : ROp κ := .store e.2 e.1.size (firstD self e.2)
def mkChild (self : Index κ) (e : ChunkOffset × κ) : MoveChunk κ := ⟨e.2, e.1.size, firstD self e.2⟩
/-- The `Copy` that expanding `c` leaves with its stack entry. -/
def copyOf (newOrder : Index κ) (c : MoveChunk κ) : ROp κ :=
  .copy c.k c.size c.source (destsOf newOrder c.k)

def absOp : ROp κ → Abs.Ev κ
  | .copy k _ _ _ => .copy k
  | .store k _ _ => .store k

/-- The projection to the abstract machine of `PlannerDfsAbs`: keys for chunks, events for
operations. -/
def absSt (s : DfsState κ) : Abs.St κ :=
  { stack := s.stack.map (fun e => (e.1.k, e.2.isSome)), visited := s.visited, ops := s.ops.map absOp }

theorem foldl_partition {α β γ : Type} (q : α → Bool) (f : α → β) (g : α → γ) (l : List α)
    (s : List β) (c : List γ) :
    l.foldl (fun (a : List β × List γ) e => if q e then (a.1 ++ [f e], a.2) else (a.1, a.2 ++ [g e]))
        (s, c)
      = (s ++ (l.filter q).map f, c ++ (l.filter fun e => !q e).map g) := by
  induction l generalizing s c with
  | nil => simp
  | cons e es ih =>
    rw [List.foldl_cons, List.filter_cons, List.filter_cons]
    cases q e <;> simp [ih]

theorem foldl_triple {α β : Type} (F : Nat → List α) (G : Nat → List β) (offs : List Nat)
    (s : List α) (c : List β) (d : List Nat) :
    offs.foldl (fun (acc : List α × List β × List Nat) t =>
        (acc.1 ++ F t, acc.2.1 ++ G t, acc.2.2 ++ [t])) (s, c, d)
      = (s ++ offs.flatMap F, c ++ offs.flatMap G, d ++ offs) := by
  induction offs generalizing s c d with
  | nil => simp
  | cons t ts ih => simp [ih]

variable {self newOrder : Index κ} {lay : Layout κ}

theorem expand_eq (visited : List κ) (chunk : MoveChunk κ) :
    expand self newOrder lay visited chunk =
      (((clobE newOrder lay chunk.k).filter (fun e => visited.contains e.2)).map (mkStore self),
       ((clobE newOrder lay chunk.k).filter (fun e => !visited.contains e.2)).map (mkChild self),
       destsOf newOrder chunk.k) := by
  unfold expand clobE destsOf
  cases hget : newOrder.get chunk.k with
  | none => simp
  | some loc =>
    simp only [foldl_partition]
    rw [foldl_triple]
    simp only [List.nil_append, List.filter_flatMap, List.map_flatMap]
    rfl

theorem dfsStep_cons {chunk op rest vis ops} :
    dfsStep self newOrder lay ⟨(chunk, op) :: rest, vis, ops⟩ =
      some (if chunk.k ∈ vis then ⟨rest, vis, ops ++ op.toList⟩
        else
          ⟨(((clobE newOrder lay chunk.k).filter fun e => !(chunk.k :: vis).contains e.2).map
              fun x => (mkChild self x, none)).reverse ++
            (chunk, some (copyOf newOrder chunk)) :: rest,
           chunk.k :: vis,
           ops ++ ((clobE newOrder lay chunk.k).filter fun e => (chunk.k :: vis).contains e.2).map
              (mkStore self)⟩) := by
  unfold dfsStep
  by_cases hv : chunk.k ∈ vis
  · cases op <;> simp [hv]
  · simp [hv, expand_eq, copyOf]

theorem mem_clobE_iff {z : κ} {x : ChunkOffset × κ} :
    x ∈ clobE newOrder lay z ↔ ∃ loc, newOrder.get z = some loc ∧
      ∃ t ∈ loc.offsets, x ∈ lay.overlapping ⟨t, loc.size⟩ ∧ x.2 ≠ z := by
  unfold clobE
  cases newOrder.get z with
  | none => simp
  | some loc =>
    simp only [List.mem_flatMap, List.mem_filter, decide_eq_true_eq, Option.some.injEq,
      exists_eq_left']

theorem mem_clobE {z : κ} {x : ChunkOffset × κ} (h : x ∈ clobE newOrder lay z) :
    x ∈ lay ∧ x.2 ≠ z := by
  obtain ⟨loc, -, t, -, hx, hne⟩ := mem_clobE_iff.1 h
  exact ⟨List.mem_reverse.1 ((overlapping_sublist _ _).subset hx), hne⟩

theorem length_flatMap_le {α β : Type} {f : α → List β} {n : Nat} (l : List α)
    (h : ∀ a, (f a).length ≤ n) : (l.flatMap f).length ≤ l.length * n := by
  induction l with
  | nil => simp
  | cons a l ih =>
    rw [List.flatMap_cons, List.length_append, List.length_cons, Nat.succ_mul, Nat.add_comm]
    exact Nat.add_le_add ih (h a)

theorem clobE_length_le {z : κ} {loc : Loc} (hget : newOrder.get z = some loc) :
    (clobE newOrder lay z).length ≤ loc.offsets.length * lay.length := by
  unfold clobE
  rw [hget]
  exact length_flatMap_le _ fun t => Nat.le_trans (List.length_filter_le _ _)
    (Nat.le_trans (overlapping_sublist _ _).length_le (Nat.le_of_eq List.length_reverse))

theorem mem_clobK {z y : κ} (h : y ∈ clobK newOrder lay z) :
    (∃ x ∈ lay, x.2 = y) ∧ y ≠ z := by
  obtain ⟨x, hx, rfl⟩ := List.mem_map.1 h
  exact ⟨⟨x, (mem_clobE hx).1, rfl⟩, (mem_clobE hx).2⟩

/-- Expanded stack entries carry the copy of their chunk; `R` holds of the copy of every chunk on
the stack and of every operation emitted. -/
structure CInv (R : ROp κ → Prop) (newOrder : Index κ) (s : DfsState κ) : Prop where
  stk : ∀ e ∈ s.stack, R (copyOf newOrder e.1) ∧ ∀ o, e.2 = some o → o = copyOf newOrder e.1
  ops : ∀ op ∈ s.ops, R op

section
variable {R : ROp κ → Prop} (hS : ∀ x ∈ lay, R (mkStore self x))
  (hC : ∀ x ∈ lay, R (copyOf newOrder (mkChild self x)))

theorem init_cinv {root : MoveChunk κ} {ops0 : List (ROp κ)} (hroot : R (copyOf newOrder root))
    (hops : ∀ op ∈ ops0, R op) : CInv R newOrder ⟨[(root, none)], [], ops0⟩ :=
  ⟨List.forall_mem_singleton.2 ⟨hroot, nofun⟩, hops⟩

include hS hC in
theorem step_cinv {s s' : DfsState κ} (h : dfsStep self newOrder lay s = some s')
    (inv : CInv R newOrder s) : CInv R newOrder s' := by
  obtain ⟨_ | ⟨⟨chunk, op⟩, rest⟩, vis, ops⟩ := s
  · cases h
  obtain ⟨⟨hR, hop⟩, hrest⟩ := List.forall_mem_cons.1 inv.stk
  rw [dfsStep_cons] at h
  cases Option.some.inj h
  by_cases hv : chunk.k ∈ vis
  · rw [if_pos hv]
    exact ⟨hrest, List.forall_mem_append.2 ⟨inv.ops, fun o ho =>
      hop o (Option.mem_toList.1 ho) ▸ hR⟩⟩
  · rw [if_neg hv]
    have hlay : ∀ q, ∀ x ∈ (clobE newOrder lay chunk.k).filter q, x ∈ lay :=
      fun q x hx => (mem_clobE (List.mem_filter.1 hx).1).1
    refine ⟨List.forall_mem_append.2 ⟨fun e he => ?_,
      List.forall_mem_cons.2 ⟨⟨hR, fun o ho => (Option.some.inj ho).symm⟩, hrest⟩⟩,
      List.forall_mem_append.2 ⟨inv.ops, fun o ho => ?_⟩⟩
    · obtain ⟨x, hx, rfl⟩ := List.mem_map.1 (List.mem_reverse.1 he)
      exact ⟨hC x (hlay _ x hx), nofun⟩
    · obtain ⟨x, hx, rfl⟩ := List.mem_map.1 ho
      exact hS x (hlay _ x hx)

theorem sim_step {s : DfsState κ} (inv : CInv R newOrder s) :
    Abs.step (clobK newOrder lay) (absSt s) = (dfsStep self newOrder lay s).map absSt := by
  obtain ⟨_ | ⟨⟨chunk, op⟩, rest⟩, vis, ops⟩ := s
  · rfl
  rw [dfsStep_cons]
  unfold Abs.step absSt
  simp only [List.map_cons, Option.map_some]
  by_cases hv : chunk.k ∈ vis
  · rw [if_pos hv, if_pos hv]
    cases op with
    | none => simp
    | some o => rw [(inv.stk _ List.mem_cons_self).2 o rfl]; simp [copyOf, absOp]
  · rw [if_neg hv, if_neg hv]
    -- filtering the clobbered keys is filtering the clobbered entries (`List.filter_map`)
    simp only [clobK, List.filter_map, List.map_append, List.map_cons, List.map_reverse,
      List.map_map, Option.isSome_some, List.contains_eq_mem]
    rfl

include hS hC in
theorem sim_run (n : Nat) {s : DfsState κ} (inv : CInv R newOrder s) :
    CInv R newOrder (dfsRun self newOrder lay n s) ∧
      absSt (dfsRun self newOrder lay n s) = Abs.run (clobK newOrder lay) n (absSt s) := by
  induction n generalizing s with
  | zero => exact ⟨inv, rfl⟩
  | succ n ih =>
    unfold dfsRun Abs.run
    rw [sim_step inv]
    cases h : dfsStep self newOrder lay s with
    | none => exact ⟨inv, rfl⟩
    | some s' => exact ih (step_cinv hS hC h inv)

theorem dfsRun_map {self' : Index κ} {f : DfsState κ → DfsState κ}
    (hf : ∀ s, dfsStep self' newOrder lay (f s) = (dfsStep self newOrder lay s).map f) (n : Nat)
    (s : DfsState κ) : dfsRun self' newOrder lay n (f s) = f (dfsRun self newOrder lay n s) := by
  induction n generalizing s with
  | zero => rfl
  | succ n ih =>
    unfold dfsRun
    rw [hf]
    cases dfsStep self newOrder lay s with
    | none => rfl
    | some s' => exact ih s'

/-- The ops already emitted (by earlier trees) are carried along untouched. -/
def withPre (p : List (ROp κ)) (s : DfsState κ) : DfsState κ := { s with ops := p ++ s.ops }

theorem dfsStep_withPre (p : List (ROp κ)) (s : DfsState κ) :
    dfsStep self newOrder lay (withPre p s) = (dfsStep self newOrder lay s).map (withPre p) := by
  obtain ⟨_ | ⟨⟨chunk, op⟩, rest⟩, vis, ops⟩ := s
  · rfl
  rw [withPre, dfsStep_cons, dfsStep_cons]
  by_cases hv : chunk.k ∈ vis <;> simp [hv, withPre, List.append_assoc]

include hS hC in
theorem tree_sim (n : Nat) {root : MoveChunk κ} (hroot : R (copyOf newOrder root))
    (ops0 : List (ROp κ)) :
    ∃ fin, dfsRun self newOrder lay n ⟨[(root, none)], [], ops0⟩ = withPre ops0 fin ∧
      (∀ op ∈ fin.ops, R op) ∧
      absSt fin = Abs.run (clobK newOrder lay) n ⟨[(root.k, false)], [], []⟩ := by
  obtain ⟨inv, hsim⟩ := sim_run hS hC n (init_cinv (ops0 := []) hroot nofun)
  refine ⟨_, ?_, inv.ops, hsim⟩
  rw [← dfsRun_map (dfsStep_withPre ops0), withPre, List.append_nil]

end

theorem dfsRun_visited {U : κ → Prop} (hU : ∀ e ∈ lay, U e.2) (n : Nat) {root : MoveChunk κ}
    (hroot : U root.k) (ops0 : List (ROp κ)) :
    ∀ k ∈ (dfsRun self newOrder lay n ⟨[(root, none)], [], ops0⟩).visited, U k := by
  obtain ⟨-, hsim⟩ := sim_run (R := fun _ => True) (self := self) (newOrder := newOrder)
    (lay := lay) (fun _ _ => trivial) (fun _ _ => trivial) n (s := ⟨[(root, none)], [], ops0⟩)
    (init_cinv trivial fun _ _ => trivial)
  have hcl := Abs.run_induct (clobK newOrder lay) (Abs.Closed U)
    (fun _ _ => Abs.step_closed _ U fun z y hy => by
      obtain ⟨x, hx, rfl⟩ := (mem_clobK hy).1
      exact hU x hx) n _ (Abs.init_closed U hroot (ops0.map absOp))
  exact (hsim ▸ hcl).2

theorem le_sum_of_mem {a : Nat} {l : List Nat} (h : a ∈ l) : a ≤ l.sum := by
  obtain ⟨s, t, rfl⟩ := List.append_of_mem h
  rw [List.sum_append_nat, List.sum_cons]
  omega

theorem sum_filter_add_not {α : Type} (l : List α) (q : α → Bool) (f : α → Nat) :
    ((l.filter q).map f).sum + ((l.filter fun e => !q e).map f).sum = (l.map f).sum := by
  rw [← List.sum_append_nat, ← List.map_append]
  exact ((List.filter_append_perm q l).map f).sum_nat

theorem sum_map_mul {α : Type} (l : List α) (f : α → Nat) (c : Nat) :
    (l.map (fun e => f e * c)).sum = (l.map f).sum * c := by
  induction l with
  | nil => simp
  | cons x xs ih => simp [ih, Nat.add_mul]

section
variable {α : Type} (key : α → κ) (f : α → Nat) (l : List α)

def sumUnvisited (vis : List κ) : Nat := ((l.filter fun e => !vis.contains (key e)).map f).sum

theorem sumUnvisited_nil : sumUnvisited key f l [] = (l.map f).sum :=
  congrArg (fun l => (l.map f).sum) (List.filter_eq_self.2 fun _ _ => rfl)

theorem sumUnvisited_cons (z : κ) (vis : List κ) :
    sumUnvisited key f l (z :: vis) ≤ sumUnvisited key f l vis ∧
      ∀ e0 ∈ l, key e0 = z → z ∉ vis →
        sumUnvisited key f l (z :: vis) + f e0 ≤ sumUnvisited key f l vis := by
  unfold sumUnvisited
  -- the filter for `z :: vis` is that for `vis` followed by the one that drops the key `z`
  simp only [List.contains_cons, Bool.not_or, ← List.filter_filter]
  rw [← sum_filter_add_not (l.filter fun e => !vis.contains (key e)) (fun e => !(key e == z)) f]
  exact ⟨Nat.le_add_right _ _, fun e0 h0 hk hv => Nat.add_le_add_left (le_sum_of_mem
    (List.mem_map_of_mem (List.mem_filter.2
      ⟨List.mem_filter.2 ⟨h0, by simpa [hk] using hv⟩, by simp [hk]⟩))) _⟩

end

/-- What the unvisited keys can still cost: one visit per layout entry, and for every target
entry as many children as it has offsets times layout entries.  `dfsFuel` is twice this at the
start, and some. -/
def wgt (newOrder : Index κ) (lay : Layout κ) (vis : List κ) : Nat :=
  sumUnvisited (·.2) (fun _ => 1) lay vis +
    sumUnvisited (·.1) (fun e => e.2.offsets.length * lay.length) newOrder vis

theorem wgt_nil :
    wgt newOrder lay [] = lay.length + (newOrder.map (·.2.offsets.length)).sum * lay.length := by
  rw [wgt, sumUnvisited_nil, sumUnvisited_nil, sum_map_mul, List.map_const', List.sum_replicate_nat,
    Nat.mul_one]

theorem wgt_step (z : κ) (hz : ∃ x ∈ lay, x.2 = z) (vis : List κ) (hv : z ∉ vis) :
    wgt newOrder lay (z :: vis) + 1 + (clobK newOrder lay z).length ≤ wgt newOrder lay vis := by
  obtain ⟨x, hx, hxz⟩ := hz
  have h1 := (sumUnvisited_cons (·.2) (fun _ => 1) lay z vis).2 x hx hxz hv
  obtain ⟨h2, h2'⟩ :=
    sumUnvisited_cons (·.1) (fun e => e.2.offsets.length * lay.length) newOrder z vis
  unfold wgt clobK
  rw [List.length_map]
  cases hget : newOrder.get z with
  | none =>
    rw [clobE, hget]
    simp only [List.length_nil]
    omega
  | some loc =>
    have h3 := clobE_length_le (lay := lay) hget
    have := h2' (z, loc) (mem_of_get hget) rfl hv
    simp only at this
    omega

omit [DecidableEq κ] in
theorem copyKeys_abs (ops : List (ROp κ)) : Abs.copyKeys (ops.map absOp) = copiesOf ops := by
  unfold copiesOf
  induction ops with
  | nil => rfl
  | cons x xs ih => cases x <;> simp [absOp, Abs.copyKeys, isCopy, opKey, List.filter_cons, ih]

omit [DecidableEq κ] in
theorem ordered_abs {clob : κ → List κ} {ops pre post : List (ROp κ)} {z : κ} {sz src : Nat}
    {d : List Nat} (h : Abs.Ordered clob (ops.map absOp))
    (hdec : ops = pre ++ ROp.copy z sz src d :: post) :
    ∀ y ∈ clob z, ∃ op ∈ pre, opKey op = y := by
  intro y hy
  rcases h (pre.map absOp) z (post.map absOp) (by rw [hdec]; simp [absOp]) y hy with h | h <;>
  · obtain ⟨op, hop, he⟩ := List.mem_map.mp h
    refine ⟨op, hop, ?_⟩
    cases op <;> simp [absOp, opKey] at he ⊢ <;> exact he

theorem dfs_tree (self newOrder : Index κ) {lay : Layout κ} (ops0 : List (ROp κ)) (n : Nat)
    {x0 : ChunkOffset × κ} (hx0 : x0 ∈ lay)
    (hn : 1 + 2 * (lay.length + (newOrder.map (·.2.offsets.length)).sum * lay.length) ≤ n) :
    ∃ new vis,
      (dfsRun self newOrder lay n ⟨[(mkChild self x0, none)], [], ops0⟩).ops = ops0 ++ new ∧
      (dfsRun self newOrder lay n ⟨[(mkChild self x0, none)], [], ops0⟩).visited = vis ∧
      (copiesOf new).Nodup ∧ (∀ k, k ∈ copiesOf new ↔ k ∈ vis) ∧
      x0.2 ∈ vis ∧
      (∀ k ∈ vis, ∃ x ∈ lay, x.2 = k) ∧
      (∀ op ∈ new, ∃ x ∈ lay, op = mkStore self x ∨ op = copyOf newOrder (mkChild self x)) ∧
      (∀ {pre z sz src d post}, new = pre ++ ROp.copy z sz src d :: post →
          ∀ x ∈ clobE newOrder lay z, ∃ op ∈ pre, opKey op = x.2) := by
  obtain ⟨fin, hrun, hR, hsim⟩ := tree_sim (self := self) (newOrder := newOrder)
    (R := fun op => ∃ x ∈ lay, op = mkStore self x ∨ op = copyOf newOrder (mkChild self x))
    (fun x hx => ⟨x, hx, .inl rfl⟩) (fun x hx => ⟨x, hx, .inr rfl⟩) n (root := mkChild self x0)
    ⟨x0, hx0, .inr rfl⟩ ops0
  have hfin := Abs.run_final (clob := clobK newOrder lay) (root := (mkChild self x0).k)
    (U := fun k => ∃ x ∈ lay, x.2 = k) (hU := fun z y hy => (mem_clobK hy).1)
    (W := wgt newOrder lay) (hW := wgt_step)
    (hself := fun z hz => (mem_clobK hz).2 rfl) (hroot := ⟨x0, hx0, rfl⟩) n
    (by rw [wgt_nil]; exact hn)
  rw [← hsim] at hfin
  obtain ⟨hord, hnd, hck, hrt, hvU⟩ := hfin
  rw [hrun]
  exact ⟨fin.ops, fin.visited, rfl, rfl, copyKeys_abs fin.ops ▸ hnd, copyKeys_abs fin.ops ▸ hck,
    hrt, hvU, hR,
    fun hdec x hx => ordered_abs hord hdec x.2 (List.mem_map_of_mem hx)⟩

end Bita.Proofs.Planner
