/-
  `tryInit` characterised once: the guards a successful run has passed (`TiOk`), the record it
  builds (`tiArchive`), every way it can end (`TiEnds`, `tryInit_ends`) and the converse
  (`tryInit_ok_of`); what follows about `tryInit` unfolds none of it again.
-/
import Bita.Model.Archive
import Bita.Proofs.HashTruncate

namespace Bita.Proofs
open Bita Bita.Proto

theorem le64_length (n : Nat) : (le64 n).length = 8 := by simp [le64]

theorem fromLe_range (k : Nat) : ∀ n : Nat,
    fromLe ((List.range k).map fun i => UInt8.ofNat (n / 2 ^ (8 * i) % 256)) = n % 256 ^ k := by
  induction k with
  | zero => intro n; simp [fromLe, Nat.mod_one]
  | succ k ih =>
    intro n
    rw [List.range_succ_eq_map, List.map_cons, List.map_map, Nat.pow_succ', Nat.mod_mul, ← ih]
    -- the bytes after the first are those of `n / 256`: `n / 2 ^ (8 * (i + 1)) = n / 256 / 2 ^ (8 * i)`
    simp [fromLe, Function.comp_def, Nat.mul_add, Nat.pow_add, Nat.mul_comm _ 256, ← Nat.div_div_eq_div_mul]

theorem fromLe_le64_mod (n : Nat) : fromLe (le64 n) = n % 2 ^ 64 := fromLe_range 8 n

theorem fromLe_le64 {n : Nat} (h : n < 2 ^ 64) : fromLe (le64 n) = n := by
  rw [fromLe_le64_mod]; exact Nat.mod_eq_of_lt h

theorem magicBytes_length : magicBytes.length = 6 := by decide

/-- The parameter check of `Archive::try_init` (`configAccepted`; defect F8 of DESIGN.md §6) accepts
exactly the configurations the chunking theorems assume (`Config.Valid`): every archive the code
opens is covered, and nothing more is assumed than what the code checks. -/
theorem configAccepted_iff_valid (c : Config) : configAccepted c = true ↔ c.Valid := by
  cases c with
  | buzhash f => simp only [configAccepted, decide_eq_true_eq, Config.Valid, FilterConfig.Valid]
  | rollsum f => simp only [configAccepted, decide_eq_true_eq, Config.Valid, FilterConfig.ValidRoll]
  | fixed n => simp only [configAccepted, decide_eq_true_eq, Config.Valid]

theorem compressionFromDict_cases (features : List Nat) (c : ChunkCompression) :
    (∃ r, compressionFromDict features c = .ok r) ∨ (∃ w, compressionFromDict features c = .invalid w) := by
  unfold compressionFromDict
  by_cases h1 : c.compression = Gen.enum_CompressionType_NONE
  · rw [if_pos h1]; exact .inl ⟨_, rfl⟩
  by_cases h2 : c.compression = Gen.enum_CompressionType_BROTLI
  · rw [if_neg h1, if_pos h2]; exact .inl ⟨_, rfl⟩
  by_cases h3 : c.compression = Gen.enum_CompressionType_LZMA ∨ c.compression = Gen.enum_CompressionType_ZSTD
  · by_cases h4 : features.contains c.compression = true
    · rw [if_neg h1, if_neg h2, if_pos h3, if_pos h4]; exact .inl ⟨_, rfl⟩
    · rw [if_neg h1, if_neg h2, if_pos h3, if_neg h4]; exact .inr ⟨_, rfl⟩
  · rw [if_neg h1, if_neg h2, if_neg h3]; exact .inr ⟨_, rfl⟩

theorem configFromParams_cases (p : ChunkerParameters) :
    (∃ cfg, configFromParams p = .ok cfg ∧ configAccepted cfg = true) ∨
      (∃ w, configFromParams p = .invalid w) := by
  unfold configFromParams
  dsimp only
  split
  · exact .inr ⟨_, rfl⟩
  · next c _ =>
    by_cases h : configAccepted c = true
    · rw [if_pos h]; exact .inl ⟨c, rfl, h⟩
    · rw [if_neg h]; exact .inr ⟨_, rfl⟩

theorem configFromParams_ok {p : ChunkerParameters} {cfg : Config} (h : configFromParams p = .ok cfg) :
    configAccepted cfg = true := by
  rcases configFromParams_cases p with ⟨c, hc, ha⟩ | ⟨w, hw⟩
  · cases hc.symm.trans h; exact ha
  · cases hw.symm.trans h

/-- The dictionary size a pre-header declares.  An `abbrev`, so that `rw [w.hrest]` finds its
instance in the unfolded `tryInit` (`tryInit_ok_of`); `tiCdo` stands in no such pattern. -/
abbrev tiDictSize (pre : Bytes) : Nat := fromLe ((pre.drop magicBytes.length).take 8)

/-- The chunk data offset a header declares. -/
def tiCdo (pre rest : Bytes) : Nat :=
  fromLe (((pre ++ rest).drop (Gen.preHeaderSize + tiDictSize pre)).take 8)

/-- The descriptor `tryInit` builds from a dictionary descriptor: hash cut to `HashSum::MAX_LEN`,
offset made absolute. -/
def openDescr (cdo : Nat) (d : ChunkDescriptor) : Descr :=
  ⟨hashTruncate d.checksum Gen.hashMaxLen, d.archiveSize, cdo + d.archiveOffset, d.sourceSize⟩

/-- The record `tryInit` builds on success. -/
def tiArchive (pre rest : Bytes) (dict : ChunkDictionary) (params : ChunkerParameters)
    (compr : Compr) (cfg : Config) : Archive :=
  { chunks := dict.chunkDescriptors.map (openDescr (tiCdo pre rest))
    sourceOrder := dict.rebuildOrder, headerSize := (pre ++ rest).length
    headerChecksum := ((pre ++ rest).drop (Gen.preHeaderSize + tiDictSize pre + 8)).take 64
    compression := compr, version := dict.applicationVersion
    chunkDataOffset := tiCdo pre rest, sourceTotalSize := dict.sourceTotalSize
    sourceChecksum := hashTruncate dict.sourceChecksum Gen.hashMaxLen
    config := cfg, hashLength := params.chunkHashLength, metadata := dict.metadata }

/-- The guards a successful `tryInit` has passed. -/
structure TiOk (H : Bytes → Bytes) (features : List Nat) (read : Nat → Nat → Option Bytes)
    (pre rest : Bytes) (dict : ChunkDictionary) (params : ChunkerParameters) (cc : ChunkCompression)
    (compr : Compr) (cfg : Config) : Prop where
  hpre : read 0 Gen.preHeaderSize = some pre
  hmagic : pre.take magicBytes.length = magicBytes ∨ pre.take magicBytes.length = legacyMagicBytes
  hprelen : Gen.preHeaderSize ≤ pre.length
  /-- the header ENDS within 64 bits (`Gen.headerEndChecked`; defect F14 of DESIGN.md §6) -/
  hend : Gen.preHeaderSize + tiDictSize pre + 72 ≤ usizeMax
  hrest : read Gen.preHeaderSize (tiDictSize pre + 72) = some rest
  hhl : Gen.preHeaderSize + tiDictSize pre + 8 + 64 ≤ (pre ++ rest).length
  hck : ((pre ++ rest).drop (Gen.preHeaderSize + tiDictSize pre + 8)).take 64 =
    H ((pre ++ rest).take (Gen.preHeaderSize + tiDictSize pre + 8))
  hdict : decodeDictionary (((pre ++ rest).drop Gen.preHeaderSize).take (tiDictSize pre)) = some dict
  /-- the END of every stored chunk fits 64 bits (`Gen.chunkEndOffsetChecked`; defect F12 of
  DESIGN.md §6) -/
  hoff : ∀ d ∈ dict.chunkDescriptors, tiCdo pre rest + d.archiveOffset + d.archiveSize ≤ usizeMax
  hsz : ∀ d ∈ dict.chunkDescriptors, d.archiveSize ≠ 0
  hparams : dict.chunkerParams = some params
  /-- hash length 1..=64 (`Gen.hashLengthChecked`; defect F20 of DESIGN.md §6) -/
  hhash : 1 ≤ params.chunkHashLength ∧ params.chunkHashLength ≤ 64
  hord : ∀ i ∈ dict.rebuildOrder, i < dict.chunkDescriptors.length
  /-- the chunks in rebuild order add up to the declared source size (`Gen.sourceSizeSumChecked`;
  defect F18 of DESIGN.md §6) -/
  hsum : (dict.rebuildOrder.map fun i =>
    (((dict.chunkDescriptors.map (openDescr (tiCdo pre rest)))[i]?).map (·.sourceSize)).getD 0).sum =
      dict.sourceTotalSize
  hcc : dict.chunkCompression = some cc
  hcompr : compressionFromDict features cc = .ok compr
  hcfg : configFromParams params = .ok cfg

theorem openDescr_sourceSize (cdo : Nat) (ds : List ChunkDescriptor) (i : Nat) :
    ((ds.map (openDescr cdo))[i]?).map (·.sourceSize) = (ds[i]?).map (·.sourceSize) := by
  rw [List.getElem?_map, Option.map_map]
  rfl

/-- The shape of the checks `try_init` makes on every descriptor and every rebuild index. -/
theorem not_any_iff {α : Type} {p : α → Prop} [DecidablePred p] {l : List α} :
    ¬ (l.any fun x => decide (p x)) = true ↔ ∀ x ∈ l, ¬ p x := by simp

/-- Every way `tryInit` can end: success with all guards passed, a reported error, or one of the
two slice panics (which need a reader that hands out fewer bytes than asked for). -/
inductive TiEnds (H : Bytes → Bytes) (features : List Nat) (read : Nat → Nat → Option Bytes) :
    Outcome Archive → Prop
  | ok {pre rest dict params cc compr cfg} (w : TiOk H features read pre rest dict params cc compr cfg) :
    TiEnds H features read (.ok (tiArchive pre rest dict params compr cfg))
  | invalid (w : String) : TiEnds H features read (.invalid w)
  | readerErr : TiEnds H features read .readerErr
  | shortPre {pre} (s : String) (hpre : read 0 Gen.preHeaderSize = some pre)
    (hlt : pre.length < Gen.preHeaderSize) : TiEnds H features read (.panic s)
  | shortHeader {pre rest} (s : String) (hpre : read 0 Gen.preHeaderSize = some pre)
    (hrest : read Gen.preHeaderSize (tiDictSize pre + 72) = some rest)
    (hlt : (pre ++ rest).length < Gen.preHeaderSize + tiDictSize pre + 8 + 64) :
    TiEnds H features read (.panic s)

section
variable {H : Bytes → Bytes} {features : List Nat} {read : Nat → Nat → Option Bytes}

theorem TiEnds.ite {c : Prop} [Decidable c] {t e : Outcome Archive}
    (ht : c → TiEnds H features read t) (he : ¬c → TiEnds H features read e) :
    TiEnds H features read (if c then t else e) := by
  split
  · exact ht ‹_›
  · exact he ‹_›

theorem TiEnds.guard {c : Prop} [Decidable c] {w : String} {x : Outcome Archive}
    (hx : ¬c → TiEnds H features read x) : TiEnds H features read (if c then .invalid w else x) :=
  .ite (fun _ => .invalid w) hx

theorem tryInit_ends (H : Bytes → Bytes) (features : List Nat) (read : Nat → Nat → Option Bytes) :
    TiEnds H features read (tryInit H features read) := by
  have hf1 : Gen.chunkEndOffsetChecked = true := by decide
  unfold tryInit
  dsimp only
  -- step by step in the order of the model: `c2` .. `c11` say that a guard was passed
  rcases hpre : read 0 Gen.preHeaderSize with _ | pre
  · exact .readerErr
  refine .guard fun _ => .guard fun c2 => .ite (.shortPre _ hpre) fun c3 => .guard fun c4 => ?_
  rcases hrest : read Gen.preHeaderSize _ with _ | rest
  · exact .readerErr
  refine .ite (.shortHeader _ hpre hrest) fun c5 => .guard fun c6 => ?_
  rcases hdict : decodeDictionary _ with _ | dict
  · exact .invalid _
  refine .guard fun c7 => .guard fun c8 => ?_
  rcases hparams : dict.chunkerParams with _ | params
  · exact .invalid _
  refine .guard fun c9 => .guard fun c10 => .guard fun c11 => ?_
  rcases hcc : dict.chunkCompression with _ | cc
  · exact .invalid _
  dsimp only
  rcases (compressionFromDict_cases features cc).symm with ⟨w, hw⟩ | ⟨compr, hcompr⟩
  · rw [hw]; exact .invalid w
  rcases (configFromParams_cases params).symm with ⟨w, hw⟩ | ⟨cfg, hcfg, -⟩
  · rw [hcompr, hw]; exact .invalid w
  rw [hcompr, hcfg]
  -- the guards passed are the fields of `TiOk`; those behind a `Gen.*Checked` flag need the flag set
  exact .ok {
    hpre, hrest, hdict, hparams, hcc, hcompr, hcfg
    hmagic := Decidable.or_iff_not_not_and_not.mpr c2
    hprelen := Nat.le_of_not_lt c3
    hend := Nat.le_of_not_gt fun h => c4 (.inr ⟨by decide, h⟩)
    hhl := Nat.le_of_not_lt c5
    hck := Decidable.of_not_not c6
    hoff := fun d hd => Nat.le_of_not_gt fun h => not_any_iff.mp c7 d hd (if_pos hf1 ▸ h)
    hsz := not_any_iff.mp c8
    hhash := ⟨Nat.pos_of_ne_zero fun h => c9 ⟨by decide, .inl h⟩,
      Nat.le_of_not_gt fun h => c9 ⟨by decide, .inr h⟩⟩
    hord := fun i hi => by simpa using not_any_iff.mp c10 i hi
    hsum := Decidable.of_not_not fun h => c11 ⟨by decide, h⟩ }

theorem tryInit_ok_inv {a : Archive} (h : tryInit H features read = .ok a) :
    ∃ pre rest dict params cc compr cfg,
      TiOk H features read pre rest dict params cc compr cfg ∧
      a = tiArchive pre rest dict params compr cfg := by
  have e := tryInit_ends H features read
  rw [h] at e
  cases e with
  | ok w => exact ⟨_, _, _, _, _, _, _, w, rfl⟩

theorem guard_passed {α : Type} {c : Prop} [Decidable c] {e x y : Outcome α} (hc : ¬c) (hx : x = y) :
    (if c then e else x) = y :=
  (if_neg hc).trans hx

theorem tryInit_ok_of {pre rest dict params cc compr cfg}
    (w : TiOk H features read pre rest dict params cc compr cfg) :
    tryInit H features read = .ok (tiArchive pre rest dict params compr cfg) := by
  have hf1 : Gen.chunkEndOffsetChecked = true := by decide
  have hml : magicBytes.length ≤ Gen.preHeaderSize := by decide
  unfold tryInit
  dsimp only
  rw [w.hpre]
  refine guard_passed (Nat.not_lt.mpr (Nat.le_trans hml w.hprelen)) <|
    guard_passed (fun h => w.hmagic.elim h.1 h.2) <| guard_passed (Nat.not_lt.mpr w.hprelen) <|
    guard_passed (fun h => Nat.not_le_of_gt (h.elim
      (Nat.lt_of_lt_of_le · (Nat.add_le_add_right (Nat.le_add_left ..) _)) (·.2)) w.hend) ?_
  rw [w.hrest]
  refine guard_passed (Nat.not_lt.mpr w.hhl) <| guard_passed (not_not_intro w.hck) ?_
  rw [w.hdict]
  refine guard_passed (not_any_iff.mpr fun d hd => if_pos hf1 ▸ Nat.not_lt.mpr (w.hoff d hd)) <|
    guard_passed (not_any_iff.mpr w.hsz) ?_
  rw [w.hparams]
  refine guard_passed (fun h => h.2.elim (Nat.ne_of_gt w.hhash.1) (Nat.not_lt.mpr w.hhash.2)) <|
    guard_passed (not_any_iff.mpr fun i hi => by simpa using w.hord i hi) <|
    guard_passed (fun h => h.2 w.hsum) ?_
  rw [w.hcc]
  dsimp only
  rw [w.hcompr, w.hcfg]
  rfl

/-- `tryInit` calls its reader at most twice, both times with a size ≥ 1. -/
theorem tryInit_ok_congr {r1 r2 : Nat → Nat → Option Bytes} {a : Archive}
    (h : ∀ off size, 1 ≤ size → r1 off size = r2 off size)
    (h1 : tryInit H features r1 = .ok a) : tryInit H features r2 = .ok a := by
  obtain ⟨pre, rest, dict, params, cc, compr, cfg, w, rfl⟩ := tryInit_ok_inv h1
  exact tryInit_ok_of { w with
    hpre := h 0 Gen.preHeaderSize (by decide) ▸ w.hpre
    hrest := h Gen.preHeaderSize (tiDictSize pre + 72) (Nat.le_add_left 1 _) ▸ w.hrest }

end

end Bita.Proofs
