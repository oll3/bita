/-
  C15, memory while scanning a seed (or the prior output) with the chunker parameters an archive
  declares: the chunker never asks for more data while a whole maximum-size chunk is buffered, so
  the buffer of the streaming chunker stays below twice (maximum chunk size + REFILL_SIZE).
-/
import Bita.Proofs.ChunkStream
import Bita.Proofs.SpecChunks

namespace Bita.Proofs
open Bita
open WriterDescr Bita.Proofs.CS

theorem chunkerMax_ofConfig (cfg : Config) : chunkerMax (Chunker.ofConfig cfg) = maxChunk cfg := by
  cases cfg <;> rfl

theorem capAfterReserve_bound (M cap len : Nat) (hc : cap < 2 * (M + Gen.refillSize)) (hl : len < M) :
    capAfterReserve cap len < 2 * (M + Gen.refillSize) ∧ len ≤ capAfterReserve cap len := by
  unfold capAfterReserve
  by_cases h : cap < len + Gen.refillSize
  · rw [if_pos h]
    exact ⟨Nat.max_lt.2 ⟨by omega, by omega⟩, Nat.le_trans (Nat.le_add_right _ _) (Nat.le_max_right _ _)⟩
  · rw [if_neg h]
    exact ⟨hc, by omega⟩

theorem caps_bounded (M : Nat) (script : List Rd) (sc : SC) (cap : Nat) (hi : SInv sc)
    (hm : chunkerMax sc.ch = M) (hc : cap < 2 * (M + Gen.refillSize)) :
    ∀ e ∈ SC.caps sc cap script, e.1 < 2 * (M + Gen.refillSize) ∧ e.2 ≤ e.1 := by
  -- the cases of `SC.caps`: script exhausted, `Pending`, end of source, more bytes
  fun_induction SC.caps sc cap script with
  | case1 | case3 => nofun
  | case2 sc cap cs sc' hd s ih =>
    obtain ⟨a, -, b, -⟩ := drain_spec hi (Nat.lt_succ_self _) hd
    exact ih a (b.trans hm) hc
  | case4 sc cap cs sc' hd n s cap' he got ih =>
    obtain ⟨a, -, b, c, -⟩ := drain_spec hi (Nat.lt_succ_self _) hd
    obtain ⟨k1, k2⟩ := capAfterReserve_bound M cap _ hc (hm ▸ c)
    refine List.forall_mem_cons.2 ⟨⟨k1, ?_⟩, ih (SInv_more _ a _) (b.trans hm) k1⟩
    exact Nat.add_le_of_le_sub' k2 (Nat.le_trans (Nat.min_le_left _ _) (Nat.min_le_right _ _))

/-- Every capacity the scan asks for is below `2 * (max chunk + REFILL_SIZE)` (so is the initial
`REFILL_SIZE` it starts from), and the buffered bytes never exceed the capacity. -/
theorem scan_capacity_bounded (cfg : Config) (hv : cfg.Valid) (data : Bytes) (script : List Rd) :
    ∀ e ∈ SC.caps ⟨0, data, 0, Chunker.ofConfig cfg⟩ Gen.refillSize script,
      e.1 < 2 * (maxChunk cfg + Gen.refillSize) ∧ e.2 ≤ e.1 := by
  have hR : 0 < Gen.refillSize := by decide
  exact caps_bounded (maxChunk cfg) script _ _ (SInv_init cfg hv data) (chunkerMax_ofConfig cfg)
    (by omega)

end Bita.Proofs
