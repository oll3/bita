/-
  The two indexes a clone builds, from the dictionary (`Archive.sourceIndex`) and by scanning a
  file (`scanIndex`), are both the tiling-level `indexOf` of their chunks' keys.
-/
import Bita.Proofs.CloneKeys
import Bita.Spec.InPlace
import Bita.Proofs.ChunkRule
import Bita.Proofs.Slice

namespace Bita.Proofs
open Bita Bita.Spec

variable {content : Bytes → Bytes}

theorem fileOf_map {α : Type} {kf g : α → Bytes} {xs : List α}
    (h : ∀ x ∈ xs, content (kf x) = g x) : fileOf content (xs.map kf) = (xs.map g).flatten := by
  unfold fileOf
  rw [List.map_map]
  exact congrArg List.flatten (List.map_congr_left h)

/-- The `foldlM` is that of `Archive.sourceChunks` and `h` has the shape of `Describes.descr`, both
over a variable `order` that the induction can shorten. -/
theorem sourceChunks_fold {key : Bytes → Bytes} {chunks : List Descr} {hl : Nat} {cks : List Bytes}
    {order : List Nat}
    (hlen : order.length = cks.length)
    (h : ∀ i (hi : i < cks.length), ∃ j d, order[i]? = some j ∧ chunks[j]? = some d ∧
      d.sourceSize = cks[i].length ∧ d.checksum = key cks[i])
    (hkey : ∀ x, hashTruncate (key x) hl = key x)
    (hc : ∀ c ∈ cks, content (key c) = c) (acc : List (Nat × Descr)) (off : Nat) :
    ∃ L off', order.foldlM (fun (acc : List (Nat × Descr) × Nat) i =>
        match chunks[i]? with
        | none => none
        | some cd => some (acc.1 ++ [(acc.2, cd)], acc.2 + cd.sourceSize)) (acc, off)
          = some (acc ++ L, off') ∧
      ∀ ix : Index Bytes,
        L.foldl (fun ix e => ix.addChunk (hashTruncate e.2.checksum hl) e.2.sourceSize [e.1]) ix =
          (placements content (cks.map key) off).foldl
            (fun ix e => ix.addChunk e.1 (content e.1).length [e.2]) ix := by
  induction cks generalizing order acc off with
  | nil =>
    rw [List.length_eq_zero_iff.1 hlen]
    exact ⟨[], off, by rw [List.append_nil]; rfl, fun _ => rfl⟩
  | cons c cks ih =>
    obtain ⟨j, order, rfl⟩ := List.exists_cons_of_length_eq_add_one hlen
    obtain ⟨_, d, ⟨⟩, hd, hsz, hk⟩ := h 0 (Nat.zero_lt_succ _)
    obtain ⟨L, off', h1, h2⟩ := ih (Nat.succ.inj hlen) (fun i hi => h (i + 1) (Nat.succ_lt_succ hi))
      (fun c' h' => hc c' (List.mem_cons_of_mem _ h')) (acc ++ [(off, d)]) (off + d.sourceSize)
    refine ⟨(off, d) :: L, off', ?_, fun ix => ?_⟩
    · rw [List.foldlM_cons]
      simp only [hd]
      exact h1.trans (by rw [List.append_assoc]; rfl)
    · rw [List.foldl_cons, h2, List.map_cons, placements, List.foldl_cons,
        hc c List.mem_cons_self, hk, hkey, hsz]
      rfl

theorem sourceIndex_eq {H : Bytes → Bytes} {a : Archive} {src : Bytes} {cks : List Bytes}
    (hd : Describes H a src cks)
    (hc : ∀ c ∈ cks, content (ckey H a.hashLength c) = c) :
    a.sourceIndex = some (indexOf content (cks.map (ckey H a.hashLength))) := by
  obtain ⟨L, off', h1, h2⟩ := sourceChunks_fold (key := ckey H a.hashLength) hd.order_len hd.descr
    (fun _ => hashTruncate_idem _ _) hc [] 0
  unfold Archive.sourceIndex Archive.sourceChunks
  -- `erw`: the `match` written out in `sourceChunks_fold` is compiled to a matcher of its own
  erw [h1]
  exact congrArg some (h2 [])

section
variable {data : Bytes} {kf : Nat × Nat → Bytes} {cs : List (Nat × Nat)}

theorem placements_tiles {s : Nat} (h : Tiles cs s data.length)
    (hc : ∀ c ∈ cs, content (kf c) = slice data c.1 c.2) :
    placements content (cs.map kf) s = cs.map (fun c => (kf c, c.1)) := by
  induction cs generalizing s with
  | nil => rfl
  | cons c cs ih =>
    have hm := tiles_mem _ _ _ h c (List.mem_cons_self ..)
    obtain ⟨rfl, -, ht⟩ := h
    rw [List.map_cons, placements, hc c (List.mem_cons_self ..), slice_length hm.2.1,
      ih ht (fun c' h' => hc c' (List.mem_cons_of_mem _ h'))]
    rfl

theorem indexOf_tiles (h : Tiles cs 0 data.length)
    (hc : ∀ c ∈ cs, content (kf c) = slice data c.1 c.2) :
    indexOf content (cs.map kf) =
      cs.foldl (fun (ix : Index Bytes) c => ix.addChunk (kf c) c.2 [c.1]) [] := by
  have hsz : ∀ c ∈ cs, (content (kf c)).length = c.2 := fun c hcm => by
    rw [hc c hcm, slice_length (tiles_mem _ _ _ h c hcm).2.1]
  rw [indexOf, placements_tiles h hc, List.foldl_map]
  exact List.foldl_rel (r := Eq) rfl fun c hcm _ _ hix => by rw [hix, hsz c hcm]

end

theorem scanIndex_eq {H : Bytes → Bytes} {cfg : Config} (hv : cfg.Valid) {hl : Nat} {data : Bytes}
    (hc : ∀ c ∈ chunksOf cfg data, content (ckey H hl c) = c) :
    scanIndex H cfg hl data = indexOf content ((chunksOf cfg data).map (ckey H hl)) := by
  rw [chunksOf, List.map_map]
  exact (indexOf_tiles (kf := fun c => ckey H hl (slice data c.1 c.2)) (chunkAll_tiles cfg hv data)
    fun c h' => hc _ (List.mem_map_of_mem h')).symm

end Bita.Proofs
