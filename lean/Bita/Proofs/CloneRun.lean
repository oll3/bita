/-
  Control flow of `Clone.run`, unfolded here and nowhere else: over an archive that opens it is
  the run written with named stages (`run_eq`).  The clone theorems start from the case split
  `run_cases`, from `run_eq_fromSeeds` or from `run_congr`.  The end of the file has what C04 says of
  a run by `run_cases` alone: the pin (`clone_pin`) and `--verify-output` (`run_ok_output`).
-/
import Bita.Model.Clone
import Bita.Proofs.TryInit

namespace Bita.Proofs
open Bita

/-- The output state before the seeds are read (`none`: the in-place reordering failed). -/
def cloneSt1 (H : Bytes → Bytes) (a : Archive) (opts : CloneOpts) (prior : Bytes) (ix : Index Bytes) :
    Option (OutSt Bytes) :=
  if opts.seedOutput then
    ((OutSt.mk prior ix []).reorderInPlace (scanIndex H a.config a.hashLength prior)).map (·.1)
  else some ⟨prior, ix, []⟩

def cloneSt2 (H : Bytes → Bytes) (a : Archive) (seeds : List Bytes) (st1 : OutSt Bytes) : OutSt Bytes :=
  seeds.foldl (feedSeed H a.config a.hashLength) st1

def cloneRanges (a : Archive) (st2 : OutSt Bytes) : List (Nat × Nat) :=
  (a.fetchList st2.index).map fun d => (d.archiveOffset, d.archiveSize)

def cloneOutput (opts : CloneOpts) (a : Archive) (st3 : OutSt Bytes) : Bytes :=
  if opts.blockDev then st3.file else setLen st3.file a.sourceTotalSize

/-- What `--verify-output` hashes: the first `source_total_size` bytes of the output (F17 repair,
`Gen.verifyHashesSourceSizeOnly`). -/
def cloneHashed (opts : CloneOpts) (a : Archive) (st3 : OutSt Bytes) : Bytes :=
  if Gen.verifyHashesSourceSizeOnly then (cloneOutput opts a st3).take a.sourceTotalSize
  else cloneOutput opts a st3

def cloneHdrReqs (a : Archive) : List ArchReq :=
  [ArchReq.readAt 0 Gen.preHeaderSize, ArchReq.readAt Gen.preHeaderSize (a.headerSize - Gen.preHeaderSize)]

/-- `--verify-header` was given and is not the archive's header checksum: the check `Clone.run`
makes, and `Cli.clone` before it opens the output. -/
def pinBad (pin : Option Bytes) (a : Archive) : Bool :=
  match pin with | some pin => decide (pin ≠ a.headerChecksum) | none => false

/-- What the archive phase returns for the state `st1` before the seeds. -/
def cloneSt3 (H : Bytes → Bytes) (decomp : Nat → Bytes → Nat → Option Bytes)
    (readChunks : List (Nat × Nat) → List (Option Bytes)) (a : Archive) (seeds : List Bytes)
    (st1 : OutSt Bytes) : OutSt Bytes × Option String :=
  let st2 := cloneSt2 H a seeds st1
  feedArchive H decomp a st2 (a.fetchList st2.index) (readChunks (cloneRanges a st2))

/-- The run from the seeds on. -/
def runFromSeeds (H : Bytes → Bytes) (decomp : Nat → Bytes → Nat → Option Bytes)
    (readChunks : List (Nat × Nat) → List (Option Bytes))
    (opts : CloneOpts) (seeds : List Bytes) (a : Archive) (st1 : OutSt Bytes) : CloneOut :=
  let r := cloneSt3 H decomp readChunks a seeds st1
  let reqs := cloneHdrReqs a ++ [ArchReq.readChunks (cloneRanges a (cloneSt2 H a seeds st1))]
  match r.2 with
  | some w => ⟨.err w, r.1.file, r.1.log, reqs⟩
  | none =>
    if opts.verifyOutput ∧ hashTruncate (H (cloneHashed opts a r.1)) a.sourceChecksum.length ≠ a.sourceChecksum then
      ⟨.err "checksum mismatch", cloneOutput opts a r.1, r.1.log, reqs⟩
    else ⟨.ok, cloneOutput opts a r.1, r.1.log, reqs⟩

section
variable {H : Bytes → Bytes} {decomp : Nat → Bytes → Nat → Option Bytes} {features : List Nat}
  {readAt : Nat → Nat → Option Bytes} {readChunks : List (Nat × Nat) → List (Option Bytes)}
  {opts : CloneOpts} {prior : Bytes} {seeds : List Bytes} {a : Archive} {ix : Index Bytes}

/-- The two panic branches of `Clone.run` (banner, source index) are not there: an archive that
opens reaches neither (`accepted_banner_safe`).  Its header holds at least the pre-header, the
offset field and the checksum, so the second header read asks for `headerSize - preHeaderSize`. -/
theorem run_eq (hinit : tryInit H features readAt = .ok a) (hix : a.sourceIndex = some ix) :
    Clone.run H decomp features readAt readChunks opts prior seeds =
      if pinBad opts.headerPin a then ⟨.err "header checksum mismatch", prior, [], cloneHdrReqs a⟩
      else if opts.blockDev ∧ prior.length < a.sourceTotalSize then
        ⟨.err "output device too small", prior, [], cloneHdrReqs a⟩
      else match cloneSt1 H a opts prior ix with
        | none => ⟨.err "failed to clone in place", prior, [], cloneHdrReqs a⟩
        | some st1 => runFromSeeds H decomp readChunks opts seeds a st1 := by
  obtain ⟨⟨r, (hb : a.banner = .ok r)⟩, -⟩ := accepted_banner_safe hinit
  obtain ⟨-, -, -, (hge : Gen.preHeaderSize + 72 ≤ a.headerSize), -⟩ := tryInit_ok_facts hinit
  have hsz : a.headerSize - Gen.preHeaderSize - 72 + 72 = a.headerSize - Gen.preHeaderSize :=
    Nat.sub_add_cancel (Nat.le_sub_of_add_le' hge)
  unfold Clone.run
  simp only [hinit, hix, hb, hsz]
  rfl

end

/-- `Clone.run` uses `readAt` only inside `tryInit` and `readChunks` only on the one list of
ranges it requests. -/
theorem run_congr {H : Bytes → Bytes} {features : List Nat} {readAt readAt' : Nat → Nat → Option Bytes}
    {a : Archive} (decomp : Nat → Bytes → Nat → Option Bytes)
    {readChunks readChunks' : List (Nat × Nat) → List (Option Bytes)}
    (opts : CloneOpts) (prior : Bytes) (seeds : List Bytes)
    (hinit : tryInit H features readAt = .ok a) (hinit' : tryInit H features readAt' = .ok a)
    (hc : ∀ st2, readChunks (cloneRanges a st2) = readChunks' (cloneRanges a st2)) :
    Clone.run H decomp features readAt readChunks opts prior seeds =
      Clone.run H decomp features readAt' readChunks' opts prior seeds := by
  obtain ⟨ix, hix⟩ := (accepted_banner_safe hinit).2.2
  rw [run_eq hinit hix, run_eq hinit' hix]
  have ht : ∀ st1, runFromSeeds H decomp readChunks opts seeds a st1 =
      runFromSeeds H decomp readChunks' opts seeds a st1 := by
    intro st1
    unfold runFromSeeds cloneSt3
    dsimp only
    rw [hc]
  simp only [ht]

theorem pinBad_eq_false_iff {pin : Option Bytes} {a : Archive} :
    pinBad pin a = false ↔ ∀ p, pin = some p → p = a.headerChecksum := by
  cases pin with
  | none => exact ⟨fun _ => nofun, fun _ => rfl⟩
  | some p => simp [pinBad]

section
variable {H : Bytes → Bytes} {features : List Nat} {readAt : Nat → Nat → Option Bytes} {a : Archive}
  (decomp : Nat → Bytes → Nat → Option Bytes) (readChunks : List (Nat × Nat) → List (Option Bytes))
  (opts : CloneOpts) (prior : Bytes) (seeds : List Bytes)

theorem run_unopened (hinit : ∀ a, tryInit H features readAt ≠ .ok a) :
    let r := Clone.run H decomp features readAt readChunks opts prior seeds
    r.result ≠ .ok ∧ r.output = prior ∧ r.log = [] := by
  dsimp only
  unfold Clone.run
  cases h : tryInit H features readAt with
  | ok a => exact absurd h (hinit a)
  | invalid w | readerErr | panic s | abort s => exact ⟨CloneResult.noConfusion, rfl, rfl⟩

theorem run_cases (hinit : tryInit H features readAt = .ok a) :
    let r := Clone.run H decomp features readAt readChunks opts prior seeds
    (r.result ≠ .ok ∧ r.output = prior ∧ r.log = [] ∧ r.requests = cloneHdrReqs a) ∨
    ∃ ix st1, a.sourceIndex = some ix ∧ cloneSt1 H a opts prior ix = some st1 ∧
      (∀ pin, opts.headerPin = some pin → pin = a.headerChecksum) ∧
      ¬ (opts.blockDev ∧ prior.length < a.sourceTotalSize) ∧
      r = runFromSeeds H decomp readChunks opts seeds a st1 := by
  dsimp only
  obtain ⟨ix, hix⟩ := (accepted_banner_safe hinit).2.2
  rw [run_eq hinit hix]
  by_cases hpin : pinBad opts.headerPin a = true
  · rw [if_pos hpin]
    exact Or.inl ⟨nofun, rfl, rfl, rfl⟩
  by_cases hdev : opts.blockDev ∧ prior.length < a.sourceTotalSize
  · rw [if_neg hpin, if_pos hdev]
    exact Or.inl ⟨nofun, rfl, rfl, rfl⟩
  rw [if_neg hpin, if_neg hdev]
  cases hst1 : cloneSt1 H a opts prior ix with
  | none => exact Or.inl ⟨nofun, rfl, rfl, rfl⟩
  | some st1 =>
    exact Or.inr ⟨ix, st1, hix, hst1, pinBad_eq_false_iff.1 (Bool.eq_false_iff.2 hpin), hdev, rfl⟩

theorem run_eq_fromSeeds (hinit : tryInit H features readAt = .ok a) {ix : Index Bytes} {st1 : OutSt Bytes}
    (hix : a.sourceIndex = some ix)
    (hpin : ∀ pin, opts.headerPin = some pin → pin = a.headerChecksum)
    (hdev : opts.blockDev = true → a.sourceTotalSize ≤ prior.length)
    (h1 : cloneSt1 H a opts prior ix = some st1) :
    Clone.run H decomp features readAt readChunks opts prior seeds =
      runFromSeeds H decomp readChunks opts seeds a st1 := by
  rw [run_eq hinit hix, pinBad_eq_false_iff.2 hpin, if_neg Bool.false_ne_true,
    if_neg (fun h => Nat.not_le_of_lt h.2 (hdev h.1)), h1]

end

section
variable {H : Bytes → Bytes} {decomp : Nat → Bytes → Nat → Option Bytes}
  {readChunks : List (Nat × Nat) → List (Option Bytes)}
  {opts : CloneOpts} {seeds : List Bytes} {a : Archive} {st1 : OutSt Bytes}

theorem runFromSeeds_log_requests :
    (runFromSeeds H decomp readChunks opts seeds a st1).log =
      (cloneSt3 H decomp readChunks a seeds st1).1.log ∧
    (runFromSeeds H decomp readChunks opts seeds a st1).requests =
      cloneHdrReqs a ++ [ArchReq.readChunks (cloneRanges a (cloneSt2 H a seeds st1))] := by
  unfold runFromSeeds
  dsimp only
  split
  · exact ⟨rfl, rfl⟩
  · split <;> exact ⟨rfl, rfl⟩

theorem runFromSeeds_ok_iff :
    (runFromSeeds H decomp readChunks opts seeds a st1).result = .ok ↔
      (cloneSt3 H decomp readChunks a seeds st1).2 = none ∧
      (opts.verifyOutput = true →
        hashTruncate (H (cloneHashed opts a (cloneSt3 H decomp readChunks a seeds st1).1))
          a.sourceChecksum.length = a.sourceChecksum) := by
  unfold runFromSeeds
  dsimp only
  generalize cloneSt3 H decomp readChunks a seeds st1 = r
  obtain ⟨st3, e⟩ := r
  cases e with
  | some w => exact ⟨nofun, fun h => nomatch h.1⟩
  | none =>
    dsimp only
    split
    · rename_i hv
      exact ⟨nofun, fun h => absurd (h.2 hv.1) hv.2⟩
    · rename_i hv
      exact ⟨fun _ => ⟨rfl, fun hvo => Classical.byContradiction fun h => hv ⟨hvo, h⟩⟩, fun _ => rfl⟩

theorem runFromSeeds_output
    (h3 : (cloneSt3 H decomp readChunks a seeds st1).2 = none) :
    (runFromSeeds H decomp readChunks opts seeds a st1).output =
      cloneOutput opts a (cloneSt3 H decomp readChunks a seeds st1).1 := by
  unfold runFromSeeds
  dsimp only
  rw [h3]
  dsimp only
  split <;> rfl

end

theorem cloneHashed_eq (opts : CloneOpts) (a : Archive) (st3 : OutSt Bytes) :
    cloneHashed opts a st3 = (cloneOutput opts a st3).take a.sourceTotalSize := by
  have hfact : Gen.verifyHashesSourceSizeOnly = true := by decide
  unfold cloneHashed
  rw [if_pos hfact]

theorem length_setLen (f : Bytes) (n : Nat) : (setLen f n).length = n := by
  unfold setLen
  rw [List.length_append, List.length_take, List.length_replicate]
  omega

theorem setLen_of_le {f : Bytes} {n : Nat} (h : n ≤ f.length) : setLen f n = f.take n := by
  rw [setLen, Nat.sub_eq_zero_of_le h, List.replicate_zero, List.append_nil]

section
variable {opts : CloneOpts} {a : Archive} {st3 : OutSt Bytes} {src : Bytes}

theorem cloneOutput_length (hb : opts.blockDev = false) :
    (cloneOutput opts a st3).length = a.sourceTotalSize := by
  rw [cloneOutput, hb, if_neg Bool.false_ne_true, length_setLen]

theorem cloneOutput_correct (opts : CloneOpts) (ht : a.sourceTotalSize = src.length)
    (h : setLen st3.file src.length = src) :
    setLen (cloneOutput opts a st3) src.length = src ∧
      (opts.blockDev = false → cloneOutput opts a st3 = src) := by
  unfold cloneOutput
  rw [ht]
  by_cases hb : opts.blockDev = true
  · rw [if_pos hb]
    exact ⟨h, fun h' => absurd hb (by rw [h']; nofun)⟩
  · rw [if_neg hb, h]
    exact ⟨(setLen_of_le (Nat.le_refl _)).trans (List.take_length ..), fun _ => rfl⟩

theorem cloneHashed_correct (ht : a.sourceTotalSize = src.length)
    (ho : setLen (cloneOutput opts a st3) src.length = src)
    (hlen : opts.blockDev = true → src.length ≤ st3.file.length) :
    cloneHashed opts a st3 = src := by
  have hl : src.length ≤ (cloneOutput opts a st3).length := by
    by_cases hb : opts.blockDev = true
    · rw [cloneOutput, if_pos hb]
      exact hlen hb
    · rw [cloneOutput_length (Bool.eq_false_iff.2 hb), ht]
      exact Nat.le_refl _
  rw [cloneHashed_eq, ht, ← setLen_of_le hl]
  exact ho

end

theorem clone_pin (H : Bytes → Bytes) (decomp : Nat → Bytes → Nat → Option Bytes) (features : List Nat)
    (readAt : Nat → Nat → Option Bytes) (readChunks : List (Nat × Nat) → List (Option Bytes))
    (opts : CloneOpts) (prior : Bytes) (seeds : List Bytes) (a : Archive) (pin : Bytes)
    (hinit : tryInit H features readAt = .ok a) (hp : opts.headerPin = some pin)
    (hne : pin ≠ a.headerChecksum) :
    let r := Clone.run H decomp features readAt readChunks opts prior seeds
    r.result ≠ .ok ∧ r.output = prior ∧ r.log = [] ∧
      ∀ q ∈ r.requests, ∃ o s, q = ArchReq.readAt o s := by
  dsimp only
  rcases run_cases decomp readChunks opts prior seeds hinit with h | ⟨ix, st1, -, -, hpin, -⟩
  · refine ⟨h.1, h.2.1, h.2.2.1, ?_⟩
    rw [h.2.2.2]
    intro q hq
    simp only [cloneHdrReqs, List.mem_cons, List.not_mem_nil, or_false] at hq
    rcases hq with rfl | rfl <;> exact ⟨_, _, rfl⟩
  · exact absurd (hpin pin hp) hne

/-- The first `source_total_size` bytes are what the repaired code hashes (F17,
`Gen.verifyHashesSourceSizeOnly`); a regular file has been cut to that size. -/
theorem run_ok_output {H : Bytes → Bytes} {decomp : Nat → Bytes → Nat → Option Bytes}
    {features : List Nat} {readAt : Nat → Nat → Option Bytes}
    {readChunks : List (Nat × Nat) → List (Option Bytes)} {opts : CloneOpts} {prior : Bytes}
    {seeds : List Bytes} {a : Archive} (hinit : tryInit H features readAt = .ok a) :
    let r := Clone.run H decomp features readAt readChunks opts prior seeds
    r.result = .ok →
      (opts.verifyOutput = true →
        hashTruncate (H (r.output.take a.sourceTotalSize)) a.sourceChecksum.length = a.sourceChecksum) ∧
      (opts.blockDev = false → r.output.length = a.sourceTotalSize) := by
  dsimp only
  intro hr
  rcases run_cases decomp readChunks opts prior seeds hinit with h | ⟨ix, st1, -, -, -, -, hrun⟩
  · exact absurd hr h.1
  rw [hrun] at hr ⊢
  obtain ⟨h3, hvo⟩ := runFromSeeds_ok_iff.1 hr
  rw [runFromSeeds_output h3, ← cloneHashed_eq]
  exact ⟨hvo, cloneOutput_length⟩

end Bita.Proofs
