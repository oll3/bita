/-
  Properties of the pure chunking rule: tiling, size bounds, resynchronisation (C09, C10).

  `specChunksFrom` and `fixedChunksFrom` are the same recursion over two ways of deciding where a
  chunk ends.  `cutsFrom` is that recursion for any `cut : Nat → Option Nat`; everything is proved
  for it once, and `specChunks cfg data` is its instance at `cutOf cfg data`.

  `spec_resync` uses neither `hv` nor `hBS`, `fixed_resync` not `hn`: the step functions refuse
  empty chunks by themselves, and resynchronisation only needs `windowOf cfg ≤ B` and the two ends.
-/
import Bita.Spec.Chunking
import Bita.Spec.Tiling
import Bita.Proofs.ValidLemmas
import Bita.Proofs.HashWindow

namespace Bita.Proofs
open Bita Bita.Spec

/-- Upper bound on every chunk length (the last chunk included). -/
def WriterDescr.maxChunk : Config → Nat
  | .buzhash f => f.maxSize
  | .rollsum f => f.maxSize
  | .fixed n => n

open WriterDescr (maxChunk)

namespace SpecChunks

/-- Chunks `(offset, length)` of `[s, len)` when `cut s` is the length of the chunk that starts at
`s` (`none`: no cut, the rest is the last chunk; a cut of length 0 ends the list). -/
def cutsFrom (cut : Nat → Option Nat) (len : Nat) : Nat → Nat → List (Nat × Nat)
  | 0, _ => []
  | fuel + 1, s =>
    if len ≤ s then []
    else
      match cut s with
      | some L => if L = 0 then [] else (s, L) :: cutsFrom cut len fuel (s + L)
      | none => [(s, len - s)]

/-- Where `cfg` ends the chunk that starts at `s`. -/
def cutOf (cfg : Config) (data : Bytes) : Nat → Option Nat :=
  match cfg with
  | .rollsum f => specCut .roll f data
  | .buzhash f => specCut .buz f data
  | .fixed n => fun s => if s + n ≤ data.length then some n else none

theorem specChunksFrom_eq (algo : Algo) (f : FilterConfig) (data : Bytes) (k s : Nat) :
    specChunksFrom algo f data k s = cutsFrom (specCut algo f data) data.length k s := by
  induction k generalizing s with
  | zero => rfl
  | succ k ih => simp only [specChunksFrom, cutsFrom, ih]; rfl

theorem fixedChunksFrom_eq (n len k s : Nat) :
    fixedChunksFrom n len k s = cutsFrom (fun s => if s + n ≤ len then some n else none) len k s := by
  induction k generalizing s with
  | zero => rfl
  | succ k ih =>
    rw [fixedChunksFrom, cutsFrom, ih]
    by_cases h : s + n ≤ len
    · rw [if_pos h, if_pos h]
    · rw [if_neg h, if_neg h]

theorem specChunks_eq (cfg : Config) (data : Bytes) :
    specChunks cfg data = cutsFrom (cutOf cfg data) data.length (data.length + 1) 0 := by
  cases cfg with
  | rollsum f => exact specChunksFrom_eq ..
  | buzhash f => exact specChunksFrom_eq ..
  | fixed n => exact fixedChunksFrom_eq ..

variable {cut : Nat → Option Nat} {len : Nat}

theorem cutsFrom_some {k s L : Nat} (hs : ¬ len ≤ s) (hL : cut s = some L) (h0 : L ≠ 0) :
    cutsFrom cut len (k + 1) s = (s, L) :: cutsFrom cut len k (s + L) := by
  rw [cutsFrom, if_neg hs, hL]; exact if_neg h0

theorem cutsFrom_none {k s : Nat} (hs : ¬ len ≤ s) (hc : cut s = none) :
    cutsFrom cut len (k + 1) s = [(s, len - s)] := by
  rw [cutsFrom, if_neg hs, hc]

theorem cutsFrom_end {k s : Nat} (hs : len ≤ s) : cutsFrom cut len k s = [] := by
  cases k with
  | zero => rfl
  | succ k => rw [cutsFrom, if_pos hs]

theorem cutsFrom_zero {k s : Nat} (hc : cut s = some 0) : cutsFrom cut len k s = [] := by
  cases k with
  | zero => rfl
  | succ k => rw [cutsFrom, hc]; exact ite_self _

theorem mem_dropLast_cons {α} {a c : α} {l : List α} (h : c ∈ (a :: l).dropLast) :
    c = a ∨ c ∈ l.dropLast := by
  cases l with
  | nil => cases h
  | cons b l => rwa [List.dropLast_cons_cons, List.mem_cons] at h

theorem cutsFrom_mem {k s : Nat} :
    (∀ c ∈ cutsFrom cut len k s,
      s ≤ c.1 ∧ c.1 < len ∧ (cut c.1 = some c.2 ∨ (cut c.1 = none ∧ c.2 = len - c.1))) ∧
    ∀ c ∈ (cutsFrom cut len k s).dropLast, cut c.1 = some c.2 := by
  -- the cases of `cutsFrom`: no fuel, `len ≤ s`, a cut of 0 (all empty); a cut of `L`; no cut
  fun_induction cutsFrom cut len k s with
  | case1 | case2 | case3 => exact ⟨nofun, nofun⟩
  | case4 k s hs L hL _ ih =>
    refine ⟨List.forall_mem_cons.2 ⟨⟨Nat.le_refl _, Nat.lt_of_not_le hs, .inl hL⟩, fun c h => ?_⟩,
      fun c h => ?_⟩
    · have := ih.1 c h
      exact ⟨Nat.le_trans (Nat.le_add_right s L) this.1, this.2⟩
    · rcases mem_dropLast_cons h with rfl | h
      · exact hL
      · exact ih.2 c h
  | case5 k s hs hc =>
    exact ⟨List.forall_mem_singleton.2 ⟨Nat.le_refl _, Nat.lt_of_not_le hs, .inr ⟨hc, rfl⟩⟩, nofun⟩

theorem cutsFrom_fuel {k1 k2 s : Nat} (h1 : len < s + k1) (h2 : len < s + k2) :
    cutsFrom cut len k1 s = cutsFrom cut len k2 s := by
  fun_induction cutsFrom cut len k1 s generalizing k2 with
  | case1 s => rw [cutsFrom_end (s := s) (Nat.le_of_lt h1)]
  | case2 k s hs => rw [cutsFrom_end hs]
  | case3 k s hs hc => rw [cutsFrom_zero hc]
  | case4 k s hs L hL h0 ih =>
    obtain ⟨k2, rfl⟩ : ∃ k, k2 = k + 1 := ⟨k2 - 1, by omega⟩
    rw [cutsFrom_some hs hL h0, ih (k2 := k2) (by omega) (by omega)]
  | case5 k s hs hc =>
    obtain ⟨k2, rfl⟩ : ∃ k, k2 = k + 1 := ⟨k2 - 1, by omega⟩
    rw [cutsFrom_none hs hc]

theorem cutsFrom_tile (hc : ∀ s L, s < len → cut s = some L → 1 ≤ L ∧ s + L ≤ len) (k s : Nat)
    (hs : s ≤ len) (hk : len < s + k) : Tiles (cutsFrom cut len k s) s len := by
  fun_induction cutsFrom cut len k s with
  | case1 => omega
  | case2 k s hle => exact Nat.le_antisymm hs hle
  | case3 k s hlt h0 => exact absurd (hc s 0 (Nat.lt_of_not_le hlt) h0).1 (Nat.lt_irrefl 0)
  | case4 k s hlt L hL _ ih =>
    have := hc s L (Nat.lt_of_not_le hlt) hL
    exact ⟨rfl, this.1, ih this.2 (by omega)⟩
  | case5 k s hlt hn => exact ⟨rfl, by omega, show _ = _ by omega⟩

theorem isEnd_cons (c : Nat × Nat) (cs : List (Nat × Nat)) (e : Nat) :
    IsEnd (c :: cs) e ↔ c.1 + c.2 = e ∨ IsEnd cs e := by
  simp [IsEnd]

theorem filter_cons_lt {e s L : Nat} (cs : List (Nat × Nat)) (h : s < e) :
    ((s, L) :: cs).filter (fun c => decide (e ≤ c.1)) = cs.filter (fun c => decide (e ≤ c.1)) :=
  List.filter_cons_of_neg (by simpa using h)

theorem cutsFrom_filter {k s e : Nat} (K : Nat) (hk : len < s + k) (hK : len < e + K)
    (he : IsEnd (cutsFrom cut len k s) e) :
    (cutsFrom cut len k s).filter (fun c => decide (e ≤ c.1)) = cutsFrom cut len K e := by
  fun_induction cutsFrom cut len k s with
  | case1 | case2 | case3 => obtain ⟨_, hc, _⟩ := he; cases hc
  | case4 k s hlt L hL h0 ih =>
    have hoff : ∀ c ∈ cutsFrom cut len k (s + L), s + L ≤ c.1 := fun c hc => (cutsFrom_mem.1 c hc).1
    have hk' : len < s + L + k := by omega
    -- the first chunk goes; if it ends at `e` all others stay, else `e` is an end further on
    rcases (isEnd_cons _ _ _).1 he with rfl | ⟨c, hc, rfl⟩
    · rw [filter_cons_lt _ (Nat.lt_add_of_pos_right (Nat.pos_of_ne_zero h0)),
        List.filter_eq_self.2 fun c hc => decide_eq_true (hoff c hc)]
      exact cutsFrom_fuel hk' hK
    · have := hoff c hc
      rw [filter_cons_lt _ (by omega)]
      exact ih hk' ⟨c, hc, rfl⟩
  | case5 k s hlt hn =>
    have hs := Nat.lt_of_not_le hlt
    obtain rfl : len = e := by simpa [IsEnd, Nat.add_sub_cancel' (Nat.le_of_lt hs)] using he
    rw [filter_cons_lt _ hs, List.filter_nil, cutsFrom_end (Nat.le_refl _)]

theorem cutsFrom_add (p m k b : Nat) :
    (cutsFrom cut (p + m) k (p + b)).map (fun c => (c.1 - p, c.2))
      = cutsFrom (fun x => cut (p + x)) m k b := by
  fun_induction cutsFrom (fun x => cut (p + x)) m k b with
  | case1 => rfl
  | case2 k b hb => rw [cutsFrom_end (Nat.add_le_add_left hb p)]; rfl
  | case3 k b hb hc => rw [cutsFrom_zero hc]; rfl
  | case4 k b hb L hL h0 ih =>
    rw [cutsFrom_some (fun h => hb (Nat.le_of_add_le_add_left h)) hL h0, List.map_cons,
      Nat.add_assoc, ih, Nat.add_sub_cancel_left]
  | case5 k b hb hc =>
    rw [cutsFrom_none (fun h => hb (Nat.le_of_add_le_add_left h)) hc, List.map_cons,
      Nat.add_sub_cancel_left, Nat.add_sub_add_left]
    rfl

theorem cutsFrom_congr {cut1 cut2 : Nat → Option Nat} {k b : Nat}
    (h : ∀ x, b ≤ x → cut1 x = cut2 x) : cutsFrom cut1 len k b = cutsFrom cut2 len k b := by
  fun_induction cutsFrom cut1 len k b with
  | case1 => rfl
  | case2 k b hb => rw [cutsFrom_end hb]
  | case3 k b hb hc => rw [cutsFrom_zero ((h b (Nat.le_refl b)).symm.trans hc)]
  | case4 k b hb L hL h0 ih =>
    rw [cutsFrom_some hb ((h b (Nat.le_refl b)).symm.trans hL) h0,
      ih fun x hx => h x (Nat.le_trans (Nat.le_add_right b L) hx)]
  | case5 k b hb hc =>
    rw [cutsFrom_none hb ((h b (Nat.le_refl b)).symm.trans hc)]

/-- **Resynchronisation**, for any two rules that agree `B` bytes behind the differing prefixes. -/
theorem cutsFrom_resync {cut1 cut2 : Nat → Option Nat} {p1 p2 m B : Nat}
    (hcut : ∀ b, B ≤ b → cut1 (p1 + b) = cut2 (p2 + b))
    (h1 : IsEnd (cutsFrom cut1 (p1 + m) (p1 + m + 1) 0) (p1 + B))
    (h2 : IsEnd (cutsFrom cut2 (p2 + m) (p2 + m + 1) 0) (p2 + B)) :
    chunksFrom (cutsFrom cut1 (p1 + m) (p1 + m + 1) 0) (p1 + B) p1 =
    chunksFrom (cutsFrom cut2 (p2 + m) (p2 + m + 1) 0) (p2 + B) p2 := by
  unfold chunksFrom
  rw [cutsFrom_filter (m + 1) (by omega) (by omega) h1,
    cutsFrom_filter (m + 1) (by omega) (by omega) h2, cutsFrom_add, cutsFrom_add]
  exact cutsFrom_congr hcut

theorem firstBoundary_bounds {algo : Algo} {n : Nat} {mask : U32} {data : Bytes} {s lo hi L : Nat}
    (h : firstBoundary algo n mask data s lo (hi + 1 - lo) = some L) : lo ≤ L ∧ L ≤ hi := by
  generalize hk : hi + 1 - lo = k at h
  fun_induction firstBoundary algo n mask data s lo k with
  | case1 => cases h
  | case2 lo k ht =>
    cases h
    exact ⟨Nat.le_refl _, Nat.le_of_lt_succ (Nat.lt_of_sub_eq_succ hk)⟩
  | case3 lo k ht ih =>
    have := ih (by rw [Nat.sub_add_eq, hk]; rfl) h
    exact ⟨Nat.le_of_succ_le this.1, this.2⟩

/-- First length at which the rule tests a boundary, for the chunk that starts at `s`. -/
def firstLen (algo : Algo) (f : FilterConfig) (s : Nat) : Nat :=
  max (max f.minSize 1) (match algo with | .buz => f.window + 1 - s | .roll => 0)

theorem le_firstLen (algo : Algo) (f : FilterConfig) (s : Nat) :
    max f.minSize 1 ≤ firstLen algo f s := Nat.le_max_left _ _

theorem buz_le_firstLen (f : FilterConfig) (s : Nat) : f.window + 1 ≤ s + firstLen .buz f s := by
  simp only [firstLen]; omega

theorem firstLen_le {algo : Algo} {f : FilterConfig} {s x : Nat} (h1 : max f.minSize 1 ≤ x)
    (h2 : algo = .buz → f.window + 1 ≤ s + x) : firstLen algo f s ≤ x := by
  cases algo with
  | roll => simp only [firstLen]; omega
  | buz => have := h2 rfl; simp only [firstLen]; omega

theorem specCut_eq (algo : Algo) (f : FilterConfig) (data : Bytes) (s : Nat) :
    specCut algo f data s =
      match firstBoundary algo f.window (filterMask f.bits) data s (firstLen algo f s)
          (min f.maxSize (data.length - s) + 1 - firstLen algo f s) with
      | some L => some L
      | none => if f.maxSize ≤ data.length - s then some f.maxSize else none := rfl

variable {algo : Algo} {f : FilterConfig} {data : Bytes} {s L : Nat}

theorem specCut_bounds (hv : f.Sane) (hs : s < data.length) (h : specCut algo f data s = some L) :
    max f.minSize 1 ≤ L ∧ L ≤ f.maxSize ∧ s + L ≤ data.length := by
  have fits {L} (hL : L ≤ data.length - s) : s + L ≤ data.length :=
    Nat.add_le_of_le_sub' (Nat.le_of_lt hs) hL
  rw [specCut_eq] at h
  split at h
  · cases h
    obtain ⟨h1, h2⟩ := firstBoundary_bounds ‹_›
    exact ⟨Nat.le_trans (le_firstLen algo f s) h1, Nat.le_trans h2 (Nat.min_le_left _ _),
      fits (Nat.le_trans h2 (Nat.min_le_right _ _))⟩
  · split at h
    · cases h
      exact ⟨Nat.max_le.2 ⟨hv.mm, hv.max1⟩, Nat.le_refl _, fits ‹_›⟩
    · cases h

theorem specCut_none (h : specCut algo f data s = none) : data.length - s < f.maxSize := by
  rw [specCut_eq] at h
  split at h
  · cases h
  · split at h
    · cases h
    · omega

theorem firstBoundary_append (algo : Algo) (n : Nat) (mask : U32) (P1 P2 S : Bytes) (b : Nat) :
    ∀ k lo, n ≤ b + lo →
      firstBoundary algo n mask (P1 ++ S) (P1.length + b) lo k
        = firstBoundary algo n mask (P2 ++ S) (P2.length + b) lo k := by
  intro k
  induction k with
  | zero => intro lo _; simp [firstBoundary]
  | succ k ih =>
    intro lo h
    simp only [firstBoundary]
    rw [Nat.add_assoc, Nat.add_assoc, winAt_append n P1 S _ h, winAt_append n P2 S _ h,
      ih (lo + 1) (by omega)]

/-- A window behind the prefix, no warm-up left: the cut does not depend on the prefix. -/
theorem specCut_append (algo : Algo) (f : FilterConfig) (P1 P2 S : Bytes) (b : Nat)
    (hb : f.window ≤ b) :
    specCut algo f (P1 ++ S) (P1.length + b) = specCut algo f (P2 ++ S) (P2.length + b) := by
  have hl (P : Bytes) : firstLen algo f (P.length + b) = max f.minSize 1 :=
    Nat.le_antisymm (firstLen_le (Nat.le_refl _) fun _ =>
      Nat.add_le_add (Nat.le_trans hb (Nat.le_add_left _ _)) (Nat.le_max_right _ _)) (le_firstLen ..)
  have hr (P : Bytes) : (P ++ S).length - (P.length + b) = S.length - b := by
    rw [List.length_append, Nat.add_sub_add_left]
  rw [specCut_eq, specCut_eq, hl, hl, hr, hr,
    firstBoundary_append algo f.window _ P1 P2 S b _ _ (Nat.le_trans hb (Nat.le_add_right _ _))]

theorem cutOf_bounds (cfg : Config) (hv : cfg.Valid) (data : Bytes) (s L : Nat)
    (hs : s < data.length) (h : cutOf cfg data s = some L) :
    1 ≤ L ∧ s + L ≤ data.length ∧
      match (generalizing := false) cfg with
      | .rollsum f => max f.minSize 1 ≤ L ∧ L ≤ f.maxSize
      | .buzhash f => max f.minSize 1 ≤ L ∧ L ≤ f.maxSize
      | .fixed n => L = n := by
  cases cfg with
  | rollsum f =>
    have := specCut_bounds (algo := .roll) (FilterConfig.Sane_of_ValidRoll hv) hs h
    exact ⟨by omega, this.2.2, this.1, this.2.1⟩
  | buzhash f =>
    have := specCut_bounds (algo := .buz) (FilterConfig.Sane_of_Valid hv) hs h
    exact ⟨by omega, this.2.2, this.1, this.2.1⟩
  | fixed n =>
    simp only [cutOf] at h
    split at h
    · cases h; exact ⟨hv, ‹_›, rfl⟩
    · cases h

theorem cutOf_none (cfg : Config) (data : Bytes) (s : Nat) (hs : s < data.length)
    (h : cutOf cfg data s = none) : data.length - s < maxChunk cfg := by
  cases cfg with
  | rollsum f => exact specCut_none (algo := .roll) h
  | buzhash f => exact specCut_none (algo := .buz) h
  | fixed n =>
    simp only [cutOf] at h
    split at h
    · cases h
    · show _ < n; omega

end SpecChunks

open SpecChunks

theorem specChunks_tile (cfg : Config) (hv : cfg.Valid) (data : Bytes) :
    Tiles (specChunks cfg data) 0 data.length := by
  rw [specChunks_eq]
  exact cutsFrom_tile (fun s L hs h => let b := cutOf_bounds cfg hv data s L hs h; ⟨b.1, b.2.1⟩) _ 0
    (Nat.zero_le _) (by omega)

theorem specChunks_le (cfg : Config) (hv : cfg.Valid) (data : Bytes) :
    ∀ c ∈ specChunks cfg data, c.2 ≤ maxChunk cfg := by
  intro c hc
  rw [specChunks_eq] at hc
  -- a chunk is a cut, bounded by the rule, or the remainder that was too short for a cut
  obtain ⟨_, hlt, h | ⟨h, e⟩⟩ := cutsFrom_mem.1 c hc
  · have := (cutOf_bounds cfg hv data _ _ hlt h).2.2
    cases cfg with
    | rollsum f | buzhash f => exact this.2
    | fixed n => exact Nat.le_of_eq this
  · have := cutOf_none cfg data _ hlt h
    omega

theorem tiles_mem (cs : List (Nat × Nat)) : ∀ s e, Tiles cs s e →
    ∀ c ∈ cs, 1 ≤ c.2 ∧ c.1 + c.2 ≤ e ∧ s ≤ c.1 := by
  -- carried along: a tiling runs forwards
  suffices h : ∀ s e, Tiles cs s e → s ≤ e ∧ ∀ c ∈ cs, 1 ≤ c.2 ∧ c.1 + c.2 ≤ e ∧ s ≤ c.1 from
    fun s e t => (h s e t).2
  intro s e
  fun_induction Tiles cs s e with
  | case1 s e => exact fun h => ⟨Nat.le_of_eq h, nofun⟩
  | case2 o l cs s e ih =>
    intro ⟨rfl, hl, ht⟩
    obtain ⟨hle, hm⟩ := ih ht
    refine ⟨Nat.le_trans (Nat.le_add_right _ _) hle,
      List.forall_mem_cons.2 ⟨⟨hl, hle, Nat.le_refl _⟩, fun c hc => ?_⟩⟩
    have := hm c hc
    exact ⟨this.1, this.2.1, Nat.le_trans (Nat.le_add_right _ _) this.2.2⟩

theorem tiles_find : ∀ (cs : List (Nat × Nat)) (s e : Nat), Tiles cs s e →
    ∀ c ∈ cs, cs.find? (fun c' => c'.1 = c.1) = some c := by
  intro cs s e
  fun_induction Tiles cs s e with
  | case1 => exact fun _ _ hc => nomatch hc
  | case2 o l cs s e ih =>
    intro ⟨rfl, hl, ht⟩ c hc
    rcases List.mem_cons.1 hc with rfl | hc
    · exact List.find?_cons_of_pos (decide_eq_true rfl)
    · -- the later chunks start behind this one
      have hge := (tiles_mem _ _ _ ht c hc).2.2
      rw [List.find?_cons_of_neg (by simp only [decide_eq_true_eq]; omega)]
      exact ih ht c hc

theorem tiles_concat (data : Bytes) (cs : List (Nat × Nat)) (s : Nat)
    (h : Tiles cs s data.length) :
    (cs.map (fun c => slice data c.1 c.2)).flatten = data.drop s := by
  fun_induction Tiles cs s data.length with
  | case1 s => rw [h, List.drop_length]; rfl
  | case2 o l cs s _ ih =>
    obtain ⟨rfl, _, ht⟩ := h
    rw [List.map_cons, List.flatten_cons, ih ht, slice, ← List.drop_drop]
    exact List.take_append_drop l (data.drop o)

theorem mem_chunksFrom {cs : List (Nat × Nat)} {pos base : Nat} {x : Nat × Nat} :
    x ∈ chunksFrom cs pos base ↔ ∃ c ∈ cs, pos ≤ c.1 ∧ (c.1 - base, c.2) = x := by
  simp only [chunksFrom, List.mem_map, List.mem_filter, decide_eq_true_eq, and_assoc]

set_option linter.unusedVariables false in
theorem spec_resync (cfg : Config) (hv : cfg.Valid) (hroll : ∀ n, cfg ≠ .fixed n)
    (P1 P2 S : Bytes) (B : Nat)
    (hB : windowOf cfg ≤ B)
    (hBS : B ≤ S.length)
    (h1 : IsEnd (specChunks cfg (P1 ++ S)) (P1.length + B))
    (h2 : IsEnd (specChunks cfg (P2 ++ S)) (P2.length + B)) :
    chunksFrom (specChunks cfg (P1 ++ S)) (P1.length + B) P1.length =
    chunksFrom (specChunks cfg (P2 ++ S)) (P2.length + B) P2.length := by
  simp only [specChunks_eq, List.length_append] at h1 h2 ⊢
  refine cutsFrom_resync (fun b hb => ?_) h1 h2
  cases cfg with
  | rollsum f => exact specCut_append .roll f P1 P2 S b (Nat.le_trans hB hb)
  | buzhash f => exact specCut_append .buz f P1 P2 S b (Nat.le_trans hB hb)
  | fixed n => exact absurd rfl (hroll n)

set_option linter.unusedVariables false in
theorem fixed_resync (n : Nat) (hn : 1 ≤ n) (P1 P2 S : Bytes) (B : Nat) (hBS : B ≤ S.length)
    (h1 : IsEnd (specChunks (.fixed n) (P1 ++ S)) (P1.length + B))
    (h2 : IsEnd (specChunks (.fixed n) (P2 ++ S)) (P2.length + B)) :
    chunksFrom (specChunks (.fixed n) (P1 ++ S)) (P1.length + B) P1.length =
    chunksFrom (specChunks (.fixed n) (P2 ++ S)) (P2.length + B) P2.length := by
  simp only [specChunks_eq, List.length_append] at h1 h2 ⊢
  refine cutsFrom_resync (B := B) (fun b _ => ?_) h1 h2
  simp only [cutOf, List.length_append, Nat.add_assoc, Nat.add_le_add_iff_left]

end Bita.Proofs
