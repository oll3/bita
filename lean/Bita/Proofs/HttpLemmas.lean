/-
  Runs of adjacent chunks: `maximalRuns` meets its specification (C07), and what contiguity says
  about where the chunks of a run lie (`total` = the bytes of a run).
-/
import Bita.Spec.Runs

namespace Bita.Proofs
open Bita Bita.Spec

def total : List ChunkOffset → Nat
  | [] => 0
  | c :: cs => c.size + total cs

theorem total_append (a b : List ChunkOffset) : total (a ++ b) = total a + total b := by
  induction a with
  | nil => exact (Nat.zero_add _).symm
  | cons x a ih => exact (congrArg (x.size + ·) ih).trans (Nat.add_assoc ..).symm

theorem maximalRuns_cons_shape (d : ChunkOffset) (cs : List ChunkOffset) :
    ∃ r rs, maximalRuns (d :: cs) = (d :: r) :: rs := by
  rw [maximalRuns]
  split
  · split <;> exact ⟨_, _, rfl⟩
  · exact ⟨_, _, rfl⟩

theorem maximalRuns_spec (cs : List ChunkOffset) :
    (maximalRuns cs).flatten = cs ∧
    (∀ r ∈ maximalRuns cs, r ≠ [] ∧ Contiguous r) ∧
    Separated (maximalRuns cs) := by
  fun_induction maximalRuns cs with
  | case1 => exact ⟨rfl, nofun, trivial⟩
  | case2 c cs d r rs heq hadj ih =>
    -- `c` joins the first run, whose last chunk stays what it was
    rw [heq, List.forall_mem_cons] at ih
    obtain ⟨h1, ⟨⟨-, hc⟩, h2⟩, h3⟩ := ih
    refine ⟨congrArg (c :: ·) h1, List.forall_mem_cons.2 ⟨⟨nofun, hadj, hc⟩, h2⟩, ?_⟩
    cases rs with
    | nil => trivial
    | cons r2 rs => exact ⟨by rw [List.getLast?_cons_cons]; exact h3.1, h3.2⟩
  | case3 c cs d r rs heq hadj ih =>
    -- `c` is a run of its own
    rw [heq] at ih
    exact ⟨congrArg (c :: ·) ih.1, List.forall_mem_cons.2 ⟨⟨nofun, trivial⟩, ih.2.1⟩,
      fun _ ha _ hb => by cases ha; cases hb; exact hadj, ih.2.2⟩
  | case4 c cs hrs ih =>
    -- no run follows: `c` is the last chunk
    cases cs with
    | nil => exact ⟨rfl, List.forall_mem_singleton.2 ⟨nofun, trivial⟩, trivial⟩
    | cons d cs => obtain ⟨r, rs, heq⟩ := maximalRuns_cons_shape d cs; exact (hrs d r rs heq).elim

theorem maximalRuns_length_le (cs : List ChunkOffset) : (maximalRuns cs).length ≤ cs.length := by
  fun_induction maximalRuns cs with
  | case1 => exact Nat.le_refl 0
  | case2 c cs d r rs heq _ ih =>
    rw [heq] at ih
    exact Nat.le_succ_of_le ih
  | case3 c cs d r rs heq _ ih =>
    rw [heq] at ih
    exact Nat.succ_le_succ ih
  | case4 c cs _ ih => exact Nat.succ_le_succ ih

theorem contiguous_getLast_stop {c : ChunkOffset} {r : List ChunkOffset} (h : Contiguous (c :: r)) :
    ((c :: r).getLast (by simp)).stop = c.offset + total (c :: r) := by
  induction r generalizing c with
  | nil => rfl
  | cons d r ih =>
    rw [List.getLast_cons (by simp), ih h.2, ← h.1]
    exact Nat.add_assoc ..

theorem contiguous_stop_le {c : ChunkOffset} {r : List ChunkOffset} (h : Contiguous (c :: r)) :
    ∀ x ∈ c :: r, c.stop ≤ x.stop := by
  induction r generalizing c with
  | nil => exact List.forall_mem_singleton.2 (Nat.le_refl _)
  | cons d r ih =>
    exact List.forall_mem_cons.2 ⟨Nat.le_refl _, fun x hx =>
      Nat.le_trans (Nat.le_trans (Nat.le_of_eq h.1) (Nat.le_add_right ..)) (ih h.2 x hx)⟩

theorem contiguous_tail {a : ChunkOffset} {l : List ChunkOffset} (h : Contiguous (a :: l)) :
    Contiguous l := by
  cases l with
  | nil => trivial
  | cons b l => exact h.2

theorem contiguous_head {a : ChunkOffset} {l : List ChunkOffset} (h : Contiguous (a :: l)) :
    ∀ b ∈ l.head?, a.stop = b.offset := by
  cases l with
  | nil => nofun
  | cons b l => intro b' hb'; cases hb'; exact h.1

theorem separated_head {r1 : List ChunkOffset} {rs : List (List ChunkOffset)}
    (hne : ∀ x ∈ rs, x ≠ []) (hsep : Separated (r1 :: rs)) :
    ∀ a ∈ r1.getLast?, ∀ b ∈ rs.flatten.head?, a.stop ≠ b.offset := by
  cases rs with
  | nil => simp
  | cons r2 rs =>
    cases r2 with
    | nil => exact absurd rfl (hne [] (by simp))
    | cons d r2 => exact hsep.1

end Bita.Proofs
