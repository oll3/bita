/-
  The metadata map of `bita compress` (`Bita.Options.metadataOf`, the model of the BTreeMap that
  compress_cmd.rs fills from `--metadata-value` and `--metadata-file`): it is strictly ascending by key,
  holds only entries given (`metadataOf_mem`), and maps every key to the LAST value given for it
  (`metadataOf_lookup`, which also says that every key given is there) - so the `OptsOK` hypotheses
  about metadata hold for whatever the command line gives.
  `Options.metaInsert` and `Proto.mapInsert` (the map prost's decoder builds from the dictionary's
  entries) model the same `BTreeMap` at different call sites: they are one function (`mapInsert_eq_metaInsert`).
-/
import Bita.Model.Options

namespace Bita.Proofs
open Bita Bita.Options

/-- The order `OptsOK.meta_sorted` speaks about. -/
def KeyLt (a b : Bytes × Bytes) : Prop := (a.1.map (·.toNat)) < (b.1.map (·.toNat))

def metaLookup (m : List (Bytes × Bytes)) (k : Bytes) : Option Bytes := (m.find? (·.1 = k)).map (·.2)

def lastGiven (given : List (Bytes × Bytes)) (k : Bytes) : Option Bytes := metaLookup given.reverse k

theorem metaLookup_cons (k0 v0 : Bytes) (m : List (Bytes × Bytes)) (k : Bytes) :
    metaLookup ((k0, v0) :: m) k = if k0 = k then some v0 else metaLookup m k := by
  unfold metaLookup
  rw [List.find?_cons]
  by_cases h : k0 = k
  · rw [if_pos h, decide_eq_true h]; rfl
  · rw [if_neg h, decide_eq_false h]

private theorem keyLt_true {a b : Bytes} : keyLt a b = true ↔ a.map (·.toNat) < b.map (·.toNat) :=
  decide_eq_true_iff

private theorem keyGt_of_not {k k' : Bytes} (hne : k ≠ k') (hlt : ¬ keyLt k k' = true) :
    k'.map (·.toNat) < k.map (·.toNat) := by
  have h1 : ¬ k.map (·.toNat) < k'.map (·.toNat) := fun h => hlt (keyLt_true.mpr h)
  rcases List.le_iff_lt_or_eq.mp (List.not_lt.mp h1) with h | h
  · exact h
  · exact absurd ((List.map_inj_right fun _ _ => UInt8.toNat_inj.mp).mp h).symm hne

theorem metaInsert_subset (m : List (Bytes × Bytes)) (k v : Bytes) : metaInsert m k v ⊆ (k, v) :: m := by
  fun_induction metaInsert m k v with
  | case1 | case3 => exact List.Subset.refl _
  | case2 => exact List.cons_subset_cons _ (List.subset_cons_self _ _)
  | case4 k' v' rest _ _ ih =>
    exact List.cons_subset.2 ⟨List.mem_cons_of_mem _ List.mem_cons_self,
      List.Subset.trans ih (List.cons_subset_cons _ (List.subset_cons_self _ _))⟩

theorem metaInsert_sorted (m : List (Bytes × Bytes)) (k v : Bytes) (h : m.Pairwise KeyLt) :
    (metaInsert m k v).Pairwise KeyLt := by
  fun_induction metaInsert m k v with
  | case1 => exact List.pairwise_singleton _ _
  | case2 v' rest =>
    -- `KeyLt` looks at keys only
    obtain ⟨hhd, hrest⟩ := List.pairwise_cons.1 h
    exact List.pairwise_cons.2 ⟨hhd, hrest⟩
  | case3 k' v' rest hne hlt =>
    have hk : KeyLt (k, v) (k', v') := keyLt_true.mp hlt
    exact List.pairwise_cons.2 ⟨List.forall_mem_cons.2
      ⟨hk, fun a ha => List.lt_trans (α := Nat) hk ((List.pairwise_cons.1 h).1 a ha)⟩, h⟩
  | case4 k' v' rest hne hlt ih =>
    obtain ⟨hhd, hrest⟩ := List.pairwise_cons.1 h
    have hk : KeyLt (k', v') (k, v) := keyGt_of_not hne hlt
    exact List.pairwise_cons.2
      ⟨fun a ha => List.forall_mem_cons.2 ⟨hk, hhd⟩ a (metaInsert_subset rest k v ha), ih hrest⟩

/-- Holds for any list, sorted or not: the insertion never looks past the first key that is not below
`k`, and neither does a lookup of `k`. -/
theorem metaInsert_lookup (m : List (Bytes × Bytes)) (k v k' : Bytes) :
    metaLookup (metaInsert m k v) k' = if k = k' then some v else metaLookup m k' := by
  fun_induction metaInsert m k v with
  | case1 | case3 => exact metaLookup_cons ..
  | case2 v0 rest =>
    rw [metaLookup_cons, metaLookup_cons]
    split <;> rfl
  | case4 k0 v0 rest hne _ ih =>
    rw [metaLookup_cons, ih, metaLookup_cons]
    -- `k ≠ k0`: at most one of the two tests succeeds
    by_cases h0 : k0 = k'
    · rw [if_pos h0, if_neg (fun h => hne (h.trans h0.symm)), if_pos h0]
    · rw [if_neg h0, if_neg h0]

theorem foldr_metaInsert_lookup (ys : List (Bytes × Bytes)) (k : Bytes) :
    metaLookup (ys.foldr (fun e m => metaInsert m e.1 e.2) []) k = metaLookup ys k := by
  induction ys with
  | nil => rfl
  | cons e ys ih => rw [List.foldr_cons, metaInsert_lookup, ih, ← metaLookup_cons]

theorem metadataOf_sorted (strings files : List (Bytes × Bytes)) :
    (metadataOf strings files).Pairwise KeyLt :=
  List.foldlRecOn _ _ List.Pairwise.nil fun m hm e _ => metaInsert_sorted m e.1 e.2 hm

theorem metadataOf_mem (strings files : List (Bytes × Bytes)) :
    ∀ e ∈ metadataOf strings files, e ∈ strings ++ files :=
  List.foldlRecOn (motive := fun m => ∀ e ∈ m, e ∈ strings ++ files) _ _ (fun _ he => nomatch he)
    fun m hm a ha e he => List.forall_mem_cons.2 ⟨ha, hm⟩ e (metaInsert_subset m a.1 a.2 he)

theorem metadataOf_lookup (strings files : List (Bytes × Bytes)) (k : Bytes) :
    metaLookup (metadataOf strings files) k = lastGiven (strings ++ files) k := by
  unfold lastGiven
  -- the map is built by inserting from the front, i.e. by `foldr` over the reversed input
  rw [← foldr_metaInsert_lookup (strings ++ files).reverse k, List.foldr_reverse]
  rfl

theorem mapInsert_eq_metaInsert (k v : Bytes) : ∀ (m : List (Bytes × Bytes)),
    Proto.mapInsert k v m = metaInsert m k v := by
  intro m
  induction m with
  | nil => rfl
  | cons e rest ih =>
    obtain ⟨k', v'⟩ := e
    simp only [Proto.mapInsert, metaInsert, keyLt, compareOfLessAndEq_eq_lt, decide_eq_true_eq, ih]

example : Proto.mapInsert [2] [9] [([1], [7]), ([3], [8])] = [([1], [7]), ([2], [9]), ([3], [8])] := by decide +kernel

end Bita.Proofs
