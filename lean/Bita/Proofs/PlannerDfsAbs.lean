/-
  The explicit-stack DFS of `build_reorder_ops` over an abstract clobber relation `clob` (which
  keys a copy of `z` overwrites), with keys in place of chunks and events in place of operations.
  `Inv` and `Ordered`: when the copy of `z` is emitted, every key it clobbers has been stored or
  copied.
-/
namespace Bita.Proofs.Planner.Abs
variable {κ : Type} [DecidableEq κ]
inductive Ev (κ : Type) | copy (z : κ) | store (z : κ) deriving DecidableEq

structure St (κ : Type) where
  stack : List (κ × Bool)     -- head = top; Bool = expanded (op = Some)
  visited : List κ
  ops : List (Ev κ)

variable (clob : κ → List κ)

def step (s : St κ) : Option (St κ) :=
  match s.stack with
  | [] => none
  | (z, e) :: rest =>
    if z ∈ s.visited then
      if e then some { s with stack := rest, ops := s.ops ++ [Ev.copy z] }
      else some { s with stack := rest }
    else
      let vis := z :: s.visited
      let stores := (clob z).filter (fun y => decide (y ∈ vis))
      let childs := (clob z).filter (fun y => !decide (y ∈ vis))
      some { stack := (childs.map (fun y => (y, false))).reverse ++ (z, true) :: rest,
             visited := vis, ops := s.ops ++ stores.map Ev.store }

/-- (a): what an expanded `z` clobbers is stored, copied, or still above `z` on the stack, hence
done when `z` is popped; (b) and (d) restore (a) when such a witness is popped; `i0` (an expanded
entry is visited) gives (d) for a fresh expansion. -/
structure Inv (s : St κ) : Prop where
  i0 : ∀ z, (z, true) ∈ s.stack → z ∈ s.visited
  a : ∀ above z below, s.stack = above ++ (z, true) :: below →
        ∀ y ∈ clob z, Ev.store y ∈ s.ops ∨ Ev.copy y ∈ s.ops ∨ ∃ e ∈ above, e.1 = y
  b : ∀ z ∈ s.visited, Ev.copy z ∈ s.ops ∨ (z, true) ∈ s.stack
  d : ∀ above z mid y below, s.stack = above ++ (z, true) :: (mid ++ (y, true) :: below) →
        y ∈ clob z → Ev.store y ∈ s.ops

/-- Every key that a copy clobbers has been stored or copied before it. -/
def Ordered (ops : List (Ev κ)) : Prop :=
  ∀ pre z post, ops = pre ++ Ev.copy z :: post → ∀ y ∈ clob z, Ev.store y ∈ pre ∨ Ev.copy y ∈ pre

theorem append_cons_eq_cons {α} {a b : α} {above below rest : List α}
    (h : b :: rest = above ++ a :: below) :
    (above = [] ∧ b = a ∧ rest = below) ∨ (∃ above', above = b :: above' ∧ rest = above' ++ a :: below) := by
  rcases List.cons_eq_append_iff.1 h with ⟨h1, h2⟩ | ⟨above', h1, h2⟩
  · cases h2; exact Or.inl ⟨h1, rfl, rfl⟩
  · exact Or.inr ⟨above', h1, h2⟩

theorem step_cases {s s' : St κ} (h : step clob s = some s') :
    ∃ z e rest vis ops, s = ⟨(z, e) :: rest, vis, ops⟩ ∧
      ((z ∈ vis ∧ s' = ⟨rest, vis, ops ++ if e then [Ev.copy z] else []⟩) ∨
       (z ∉ vis ∧
          s' = ⟨(((clob z).filter fun y => !decide (y ∈ z :: vis)).map fun y => (y, false)).reverse ++
                  (z, true) :: rest,
                z :: vis, ops ++ ((clob z).filter fun y => decide (y ∈ z :: vis)).map Ev.store⟩)) := by
  obtain ⟨_ | ⟨⟨z, e⟩, rest⟩, vis, ops⟩ := s
  · cases h
  refine ⟨z, e, rest, vis, ops, rfl, ?_⟩
  simp only [step] at h
  by_cases hv : z ∈ vis
  · rw [if_pos hv] at h
    cases e
    · exact Or.inl ⟨hv, by rw [← Option.some.inj h]; simp⟩
    · exact Or.inl ⟨hv, (Option.some.inj h).symm⟩
  · rw [if_neg hv] at h
    exact Or.inr ⟨hv, (Option.some.inj h).symm⟩

theorem step_none {s : St κ} (h : step clob s = none) : s.stack = [] := by
  obtain ⟨_ | ⟨⟨z, e⟩, rest⟩, vis, ops⟩ := s
  · rfl
  simp only [step] at h
  by_cases hv : z ∈ vis
  · rw [if_pos hv] at h; cases e <;> cases h
  · rw [if_neg hv] at h; cases h

section
omit [DecidableEq κ]

theorem split_expand {fs rest above below : List (κ × Bool)} (hfs : ∀ w, (w, true) ∉ fs) {z w : κ}
    (h : fs ++ (z, true) :: rest = above ++ (w, true) :: below) :
    (above = fs ∧ w = z ∧ below = rest) ∨
      ∃ m, above = fs ++ (z, true) :: m ∧ rest = m ++ (w, true) :: below := by
  rcases List.append_eq_append_iff.mp h with ⟨m, h1, h2⟩ | ⟨m, h1, h2⟩
  · rcases append_cons_eq_cons h2 with ⟨rfl, h3, rfl⟩ | ⟨m', rfl, h3⟩
    · cases h3; exact Or.inl ⟨by rw [h1, List.append_nil], rfl, rfl⟩
    · exact Or.inr ⟨m', h1, h3⟩
  · rcases append_cons_eq_cons h2 with ⟨rfl, h3, rfl⟩ | ⟨m', rfl, -⟩
    · cases h3; exact Or.inl ⟨by rw [h1, List.append_nil], rfl, rfl⟩
    · exact absurd (h1 ▸ List.mem_append_right above List.mem_cons_self) (hfs w)

theorem step_pop (hself : ∀ z, z ∉ clob z) {z e rest vis ops}
    (inv : Inv clob ⟨(z, e) :: rest, vis, ops⟩) (hv : z ∈ vis) :
    Inv clob ⟨rest, vis, ops ++ if e then [Ev.copy z] else []⟩ := by
  have hb : ∀ w ∈ vis, Ev.copy w ∈ ops ++ (if e then [Ev.copy z] else []) ∨ (w, true) ∈ rest := by
    intro w hw
    rcases inv.b w hw with h1 | h1
    · exact Or.inl (List.mem_append_left _ h1)
    · rcases List.mem_cons.1 h1 with h1 | h1
      · cases h1; exact Or.inl (List.mem_append_right _ List.mem_cons_self)
      · exact Or.inr h1
  refine ⟨fun w hw => inv.i0 w (List.mem_cons_of_mem _ hw), ?_, hb, ?_⟩
  · rintro above w below rfl y hy
    rcases inv.a ((z, e) :: above) w below rfl y hy with h1 | h1 | ⟨x, hx, rfl⟩
    · exact Or.inl (List.mem_append_left _ h1)
    · exact Or.inr (Or.inl (List.mem_append_left _ h1))
    · rcases List.mem_cons.1 hx with rfl | hx
      · -- The witness was the popped entry.  By `hb` its copy is out or its expanded entry is
        -- deeper in the stack: above `w` it is a witness, at `w` it contradicts `hself`, below
        -- `w` field `d` applies.
        rcases hb z hv with h2 | h2
        · exact Or.inr (Or.inl h2)
        · rcases List.mem_append.1 h2 with h3 | h3
          · exact Or.inr (Or.inr ⟨_, h3, rfl⟩)
          · rcases List.mem_cons.1 h3 with h3 | h3
            · cases h3; exact absurd hy (hself _)
            · obtain ⟨mid, below', rfl⟩ := List.append_of_mem h3
              exact Or.inl (List.mem_append_left _
                (inv.d ((z, e) :: above) w mid z below' rfl hy))
      · exact Or.inr (Or.inr ⟨x, hx, rfl⟩)
  · rintro above w mid y below rfl hy
    exact List.mem_append_left _ (inv.d ((z, e) :: above) w mid y below rfl hy)

theorem ordered_append {ops new : List (Ev κ)} (h : Ordered clob ops)
    (hnew : ∀ z, Ev.copy z ∈ new → ∀ y ∈ clob z, Ev.store y ∈ ops ∨ Ev.copy y ∈ ops) :
    Ordered clob (ops ++ new) := by
  intro pre z post hdec y hy
  rcases List.append_eq_append_iff.mp hdec with ⟨m, rfl, h2⟩ | ⟨m, rfl, h2⟩
  · exact (hnew z (h2 ▸ List.mem_append_right m List.mem_cons_self) y hy).imp
      (List.mem_append_left _) (List.mem_append_left _)
  · rcases List.cons_eq_append_iff.1 h2 with ⟨rfl, h3⟩ | ⟨m', rfl, -⟩
    · rw [List.append_nil] at hnew
      exact hnew z (h3 ▸ List.mem_cons_self) y hy
    · exact h pre z m' rfl y hy

theorem init_inv (root : κ) (ops : List (Ev κ)) : Inv clob ⟨[(root, false)], [], ops⟩ := by
  constructor
  · intro z hz; simp at hz
  · intro above z below h; cases above <;> simp at h
  · intro z hz; simp at hz
  · intro above z mid y below h; cases above <;> simp at h

end

theorem step_expand {z e rest vis ops} (inv : Inv clob ⟨(z, e) :: rest, vis, ops⟩)
    {fs : List (κ × Bool)} {st : List (Ev κ)} (hfs : ∀ w, (w, true) ∉ fs)
    (hst : ∀ y ∈ clob z, y ∈ z :: vis → Ev.store y ∈ st)
    (hpush : ∀ y ∈ clob z, y ∉ z :: vis → (y, false) ∈ fs) :
    Inv clob ⟨fs ++ (z, true) :: rest, z :: vis, ops ++ st⟩ := by
  constructor
  · intro w hw
    rcases List.mem_append.mp hw with h1 | h1
    · exact absurd h1 (hfs w)
    · rcases List.mem_cons.1 h1 with h1 | h1
      · cases h1; exact List.mem_cons_self
      · exact List.mem_cons_of_mem _ (inv.i0 w (List.mem_cons_of_mem _ h1))
  · intro above w below h y hy
    rcases split_expand hfs h with ⟨rfl, rfl, -⟩ | ⟨m, rfl, rfl⟩
    · by_cases hyv : y ∈ w :: vis
      · exact Or.inl (List.mem_append_right _ (hst y hy hyv))
      · exact Or.inr (Or.inr ⟨_, hpush y hy hyv, rfl⟩)
    · -- the entry of `z` above `w` stays a witness
      refine (inv.a ((z, e) :: m) w below rfl y hy).imp (List.mem_append_left _)
        (Or.imp (List.mem_append_left _) fun ⟨x, hx, hxy⟩ => ?_)
      rcases List.mem_cons.1 hx with rfl | hx
      · exact ⟨(z, true), List.mem_append_right _ List.mem_cons_self, hxy⟩
      · exact ⟨x, List.mem_append_right _ (List.mem_cons_of_mem _ hx), hxy⟩
  · intro w hw
    rcases List.mem_cons.1 hw with rfl | hw
    · exact Or.inr (List.mem_append_right _ List.mem_cons_self)
    · refine (inv.b w hw).imp (List.mem_append_left _) fun h1 => List.mem_append_right _ ?_
      rcases List.mem_cons.1 h1 with h1 | h1
      · cases h1; exact List.mem_cons_self
      · exact List.mem_cons_of_mem _ h1
  · intro above w mid y below h hy
    rcases split_expand hfs h with ⟨-, rfl, rfl⟩ | ⟨m, -, rfl⟩
    · -- `y` is expanded below `w` in `rest`, so it is visited and was stored just now
      exact List.mem_append_right _ (hst y hy (List.mem_cons_of_mem _ (inv.i0 y
        (List.mem_cons_of_mem _ (List.mem_append_right _ List.mem_cons_self)))))
    · exact List.mem_append_left _ (inv.d ((z, e) :: m) w mid y below rfl hy)

def run : Nat → St κ → St κ
  | 0, s => s
  | n+1, s => match step clob s with
    | none => s
    | some s' => run n s'

theorem step_inv (hself : ∀ z, z ∉ clob z) {s s' : St κ} (h : step clob s = some s')
    (inv : Inv clob s) (ord : Ordered clob s.ops) : Inv clob s' ∧ Ordered clob s'.ops := by
  obtain ⟨z, e, rest, vis, ops, rfl, ⟨hv, rfl⟩ | ⟨hv, rfl⟩⟩ := step_cases clob h
  · refine ⟨step_pop clob hself inv hv, ordered_append clob ord fun w hw y hy => ?_⟩
    cases e with
    | false => cases hw
    | true =>
      -- `z` is on top: nothing above it can be the witness of `Inv.a`
      cases List.mem_singleton.1 hw
      rcases inv.a [] z rest rfl y hy with h1 | h1 | ⟨x, hx, -⟩
      · exact Or.inl h1
      · exact Or.inr h1
      · cases hx
  · refine ⟨step_expand clob inv (fun w hw => ?_) (fun y hy hyv => ?_) (fun y hy hyv => ?_),
      ordered_append clob ord fun w hw => ?_⟩
    · obtain ⟨y, -, hy⟩ := List.mem_map.1 (List.mem_reverse.1 hw)
      cases hy
    · exact List.mem_map.2 ⟨y, List.mem_filter.2 ⟨hy, decide_eq_true hyv⟩, rfl⟩
    · exact List.mem_reverse.2 (List.mem_map.2 ⟨y, List.mem_filter.2 ⟨hy, by simpa using hyv⟩, rfl⟩)
    · obtain ⟨y, -, hy⟩ := List.mem_map.1 hw
      cases hy

theorem run_induct (P : St κ → Prop) (hP : ∀ s s', step clob s = some s' → P s → P s')
    (n : Nat) (s : St κ) (h : P s) : P (run clob n s) := by
  induction n generalizing s with
  | zero => exact h
  | succ n ih =>
    unfold run
    cases hs : step clob s with
    | none => exact h
    | some s' => exact ih s' (hP s s' hs h)

theorem run_inv (hself : ∀ z, z ∉ clob z) (n : Nat) (s : St κ)
    (inv : Inv clob s) (ord : Ordered clob s.ops) :
    Inv clob (run clob n s) ∧ Ordered clob (run clob n s).ops :=
  run_induct clob (fun s => Inv clob s ∧ Ordered clob s.ops)
    (fun _ _ h i => step_inv clob hself h i.1 i.2) n s ⟨inv, ord⟩

def copyKeys : List (Ev κ) → List κ
  | [] => []
  | Ev.copy z :: r => z :: copyKeys r
  | Ev.store _ :: r => copyKeys r

def expKeys : List (κ × Bool) → List κ
  | [] => []
  | (z, true) :: r => z :: expKeys r
  | (_, false) :: r => expKeys r

section
omit [DecidableEq κ]

theorem copyKeys_append (a b : List (Ev κ)) : copyKeys (a ++ b) = copyKeys a ++ copyKeys b := by
  induction a with
  | nil => rfl
  | cons x xs ih => cases x <;> simp [copyKeys, ih]

theorem copyKeys_stores (ys : List κ) : copyKeys (ys.map Ev.store) = [] := by
  induction ys with
  | nil => rfl
  | cons x xs ih => simp [copyKeys, ih]

theorem expKeys_append (a b : List (κ × Bool)) : expKeys (a ++ b) = expKeys a ++ expKeys b := by
  induction a with
  | nil => rfl
  | cons x xs ih =>
    obtain ⟨z, e⟩ := x
    cases e <;> simp [expKeys, ih]

theorem expKeys_false (ys : List κ) : expKeys ((ys.map (fun y => (y, false))).reverse) = [] := by
  induction ys with
  | nil => rfl
  | cons x xs ih => simp [expKeys_append, expKeys] at ih ⊢; exact ih

end

set_option linter.unusedSectionVars false in
theorem mem_expKeys {z : κ} {st : List (κ × Bool)} : z ∈ expKeys st ↔ (z, true) ∈ st := by
  induction st with
  | nil => simp [expKeys]
  | cons x xs ih =>
    obtain ⟨w, e⟩ := x
    cases e <;> simp [expKeys, ih]

-- `U`: a set of keys that holds whatever is clobbered (`hU`), and the root when it matters: the
-- run stays inside it (`Closed`).
variable (U : κ → Prop) (hU : ∀ z y, y ∈ clob z → U y) (root : κ)

def Closed (s : St κ) : Prop := (∀ e ∈ s.stack, U e.1) ∧ ∀ k ∈ s.visited, U k

omit [DecidableEq κ] in
theorem init_closed {root : κ} (h : U root) (ops : List (Ev κ)) :
    Closed U ⟨[(root, false)], [], ops⟩ :=
  ⟨fun e he => by cases List.mem_singleton.1 he; exact h, fun k hk => by cases hk⟩

include hU in
theorem step_closed {s s' : St κ} (h : step clob s = some s') (hc : Closed U s) : Closed U s' := by
  obtain ⟨z, e, rest, vis, ops, rfl, ⟨hv, rfl⟩ | ⟨hv, rfl⟩⟩ := step_cases clob h
  · exact ⟨(List.forall_mem_cons.1 hc.1).2, hc.2⟩
  · obtain ⟨hz, hrest⟩ := List.forall_mem_cons.1 hc.1
    refine ⟨List.forall_mem_append.2 ⟨fun x hx => ?_, List.forall_mem_cons.2 ⟨hz, hrest⟩⟩,
      List.forall_mem_cons.2 ⟨hz, hc.2⟩⟩
    obtain ⟨y, hy, rfl⟩ := List.mem_map.1 (List.mem_reverse.1 hx)
    exact hU z y (List.mem_filter.1 hy).1

/-- The copies emitted and those still due (the expanded stack entries) are, up to order, the
visited keys. -/
structure Inv2 (s : St κ) : Prop where
  perm : (copyKeys s.ops ++ expKeys s.stack).Perm s.visited
  nd : s.visited.Nodup
  rt : root ∈ s.visited ∨ (root, false) ∈ s.stack

theorem step_inv2 {s s' : St κ} (h : step clob s = some s') (inv2 : Inv2 root s) :
    Inv2 root s' := by
  obtain ⟨z, e, rest, vis, ops, rfl, ⟨hv, rfl⟩ | ⟨hv, rfl⟩⟩ := step_cases clob h
  · refine ⟨?_, inv2.nd, ?_⟩
    · cases e
      · simpa [expKeys] using inv2.perm
      · simpa [copyKeys_append, copyKeys, expKeys] using inv2.perm
    · rcases inv2.rt with h1 | h1
      · exact Or.inl h1
      · rcases List.mem_cons.1 h1 with h1 | h1
        · exact Or.inl (by cases h1; exact hv)
        · exact Or.inr h1
  · cases e with
    | true =>
      -- an expanded entry is counted among the visited keys
      exact absurd (inv2.perm.mem_iff.1
        (List.mem_append_right _ (mem_expKeys.2 List.mem_cons_self))) hv
    | false =>
      refine ⟨?_, List.nodup_cons.2 ⟨hv, inv2.nd⟩, ?_⟩
      · have hperm := inv2.perm
        simp only [copyKeys_append, copyKeys_stores, expKeys_append, expKeys_false, expKeys,
          List.append_nil, List.nil_append] at hperm ⊢
        exact List.perm_middle.trans (hperm.cons z)
      · rcases inv2.rt with h1 | h1
        · exact Or.inl (List.mem_cons_of_mem _ h1)
        · rcases List.mem_cons.1 h1 with h1 | h1
          · exact Or.inl (by cases h1; exact List.mem_cons_self)
          · exact Or.inr (List.mem_append_right _ (List.mem_cons_of_mem _ h1))

-- `W vis`: a weight of the keys of `U` outside `vis`, lowered by every visit (`hW`); it bounds the
-- fuel (`pot`).
variable (W : List κ → Nat)
  (hW : ∀ z, U z → ∀ vis, z ∉ vis → W (z :: vis) + 1 + (clob z).length ≤ W vis)

/-- The fuel still needed.  A pop shortens the stack; a visit of `z` lengthens it by at most
`(clob z).length` and, by `hW`, lowers `W` by more than that. -/
def pot (s : St κ) : Nat := s.stack.length + 2 * W s.visited

include hW in
theorem step_pot {s s' : St κ} (h : step clob s = some s') (hc : Closed U s) :
    pot W s' < pot W s := by
  obtain ⟨z, e, rest, vis, ops, rfl, ⟨hv, rfl⟩ | ⟨hv, rfl⟩⟩ := step_cases clob h
  · simp only [pot, List.length_cons]; omega
  · have h1 := hW z (hc.1 (z, e) List.mem_cons_self) vis hv
    have h2 : ((clob z).filter (fun y => !decide (y ∈ z :: vis))).length ≤ (clob z).length :=
      List.length_filter_le _ _
    simp only [pot, List.length_append, List.length_reverse, List.length_map, List.length_cons]
    omega

include hU hW

theorem run_stack_nil (n : Nat) (s : St κ) (hn : pot W s ≤ n) (hc : Closed U s) :
    (run clob n s).stack = [] := by
  induction n generalizing s with
  | zero =>
    simp only [pot] at hn
    exact List.eq_nil_of_length_eq_zero (by simp only [run]; omega)
  | succ n ih =>
    unfold run
    cases h : step clob s with
    | none => exact step_none clob h
    | some s' =>
      have := step_pot clob U W hW h hc
      exact ih s' (by omega) (step_closed clob U hU h hc)

theorem run_final (hself : ∀ z, z ∉ clob z) (hroot : U root) (n : Nat) (hn : 1 + 2 * W [] ≤ n) :
    let fin := run clob n { stack := [(root, false)], visited := [], ops := [] }
    Ordered clob fin.ops ∧ (copyKeys fin.ops).Nodup ∧
      (∀ k, k ∈ copyKeys fin.ops ↔ k ∈ fin.visited) ∧ root ∈ fin.visited ∧
      (∀ k ∈ fin.visited, U k) := by
  intro fin
  have hc0 := init_closed U hroot ([] : List (Ev κ))
  obtain ⟨-, ord⟩ := run_inv clob hself n _ (init_inv clob root [])
    (fun pre z post h => by cases pre <;> cases h)
  have inv2 := run_induct clob (Inv2 root) (fun _ _ => step_inv2 clob root) n
    { stack := [(root, false)], visited := [], ops := [] } ⟨.nil, .nil, Or.inr List.mem_cons_self⟩
  have hnil := run_stack_nil clob U hU W hW n _ (by simpa [pot] using hn) hc0
  have hperm := inv2.perm
  have hrt := inv2.rt
  rw [hnil] at hperm hrt
  simp only [expKeys, List.append_nil] at hperm
  exact ⟨ord, hperm.nodup_iff.2 inv2.nd, fun k => hperm.mem_iff, by simpa using hrt,
    (run_induct clob (Closed U) (fun _ _ => step_closed clob U hU) n _ hc0).2⟩

end Bita.Proofs.Planner.Abs
