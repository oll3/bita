/-
  `slice data off n` (the bytes a read of `[off, off+n)` can deliver) under `length`, `take`,
  `drop` and `++`: what the readers' and the executor's proofs compute with.
-/
import Bita.Model.Basic

namespace Bita.Proofs
open Bita

variable (data : Bytes) (off n : Nat)

theorem length_slice : (slice data off n).length = min n (data.length - off) := by
  rw [slice, List.length_take, List.length_drop]

theorem slice_length {data : Bytes} {off n : Nat} (h : off + n ≤ data.length) :
    (slice data off n).length = n := by
  rw [length_slice]; exact Nat.min_eq_left (Nat.le_sub_of_add_le' h)

theorem slice_length_self : slice data off (slice data off n).length = slice data off n := by
  unfold slice
  rw [List.take_eq_take_iff, List.length_take, Nat.min_assoc, Nat.min_self]

theorem getElem?_slice (i : Nat) : (slice data off n)[i]? = if i < n then data[off + i]? else none := by
  rw [slice, List.getElem?_take, List.getElem?_drop]

theorem slice_zero : slice data off 0 = [] := List.take_zero

theorem slice_take (k : Nat) : (slice data off n).take k = slice data off (min k n) := List.take_take

theorem slice_drop (k : Nat) : (slice data off n).drop k = slice data (off + k) (n - k) := by
  simp [slice, List.drop_take, List.drop_drop]

theorem slice_append (m : Nat) : slice data off n ++ slice data (off + n) m = slice data off (n + m) := by
  simp [slice, List.take_add, List.drop_drop]

theorem slice_append_right {P : Bytes} {o : Nat} (h : P.length ≤ o) (S : Bytes) (n : Nat) :
    slice (P ++ S) o n = slice S (o - P.length) n := by
  unfold slice
  rw [List.drop_append, List.drop_eq_nil_of_le h, List.nil_append]

end Bita.Proofs
