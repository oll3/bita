/-
  Schedule / timing theorems (C01 T3, C05 T2, C12).

  A stage of the pipeline is followed through `BufSt.content` (emitted, then the window, then what is
  not yet submitted): no event of `buffered` changes it, an event of `buffer_unordered` permutes it.
  Every operation of `TFile` begins by waiting for the write in flight, so what an operation does
  is stated on the settled file `f.complete failAt`, and the loops over writes are followed there.
-/
import Bita.Model.Schedule

namespace Bita

namespace BufSt
variable {α : Type}

def content (s : BufSt α) : List α := s.out ++ s.inflight.map (·.1) ++ s.input

theorem mapIdx_done_fst (l : List (α × Bool)) (i : Nat) :
    (l.mapIdx fun j e => if j = i then (e.1, true) else e).map (·.1) = l.map (·.1) := by
  apply List.ext_getElem
  · simp
  · intro j h1 h2
    simp only [List.getElem_map, List.getElem_mapIdx]
    split <;> rfl

theorem content_topUp (s : BufSt α) (k : Nat) :
    content ⟨s.input.drop k, s.inflight ++ (s.input.take k).map (·, false), s.out⟩ = s.content := by
  simp [content, Function.comp_def]

theorem content_stepOrdered (n : Nat) (s : BufSt α) (e : SchedEv) :
    (s.stepOrdered n e).content = s.content := by
  cases e with
  | finish i => simp only [stepOrdered, content, mapIdx_done_fst]
  | poll =>
    rw [← content_topUp s (n - s.inflight.length)]
    simp only [stepOrdered]
    split
    · rename_i x rest heq
      simp only [content, heq]
      simp
    · rfl

theorem _root_.List.perm_getElem?_eraseIdx {β : Type} (l : List β) (j : Nat) :
    List.Perm (l[j]?.toList ++ l.eraseIdx j) l := by
  induction l generalizing j with
  | nil => simp
  | cons a t ih =>
    cases j with
    | zero => exact .refl _
    | succ j => exact List.perm_middle.trans ((ih j).cons a)

theorem content_stepUnordered (n : Nat) (s : BufSt α) (e : SchedEv) :
    List.Perm (s.stepUnordered n e).content s.content := by
  cases e with
  | finish i => simp only [stepUnordered, content, mapIdx_done_fst]; exact .refl _
  | poll =>
    rw [← content_topUp s (n - s.inflight.length)]
    simp only [stepUnordered]
    split
    · rename_i j _
      simp only [content, List.append_assoc]
      refine .append_left _ ?_
      rw [← List.append_assoc, Option.toList_map, ← List.map_append]
      exact ((List.perm_getElem?_eraseIdx _ j).map _).append_right _
    · exact .refl _

theorem content_of_drained (s : BufSt α) (hf : s.inflight = []) (hi : s.input = []) :
    s.content = s.out := by
  simp [content, hf, hi]

end BufSt

namespace TFile
variable (fa : Option Nat) (f : TFile)

theorem complete_of_inflight_none (h : f.inflight = none) : f.complete fa = f := by
  simp [complete, h]

theorem inflight_complete : (f.complete fa).inflight = none := by
  unfold complete
  split
  · assumption
  · split <;> rfl

@[simp] theorem lastErr_complete_none : (f.complete none).lastErr = f.lastErr := by
  unfold complete
  split
  · rfl
  · simp

@[simp] theorem complete_complete : (f.complete fa).complete fa = f.complete fa :=
  complete_of_inflight_none fa _ (inflight_complete fa f)

theorem complete_seek (off : Nat) : (f.seek fa off).complete fa = { f.complete fa with pos := off } :=
  complete_of_inflight_none fa _ (inflight_complete fa f)

variable {fa f}

theorem complete_write {g : TFile} (b : Bytes) (hg : f.complete fa = g) (h : g.lastErr = false) :
    (f.write fa b).1.complete fa =
      if fa = some g.performed then
        { g with pos := g.pos + b.length, lastErr := true, performed := g.performed + 1 }
      else
        { g with data := writeAt g.data g.pos b, pos := g.pos + b.length, performed := g.performed + 1 } := by
  have hi := inflight_complete fa f
  rw [hg] at hi
  simp only [write, hg, h]
  -- `complete` sets `inflight := none`; the records on the right keep `g.inflight`, which is `none` (`hi`)
  simp [complete, ← hi]

end TFile

theorem cloneTail_go_cons (fa : Option Nat) (f : TFile) (off : Nat) (b : Bytes) (ws : List (Nat × Bytes)) :
    cloneTail.go fa f ((off, b) :: ws) =
      if (f.complete fa).lastErr then (((f.seek fa off).write fa b).1, false)
      else cloneTail.go fa ((f.seek fa off).write fa b).1 ws := by
  have h : ((f.seek fa off).write fa b).2 = !(f.complete fa).lastErr := by
    cases hE : (f.complete fa).lastErr <;> simp [TFile.write, TFile.complete_seek, hE]
  simp only [cloneTail.go]
  generalize (f.seek fa off).write fa b = w at h ⊢
  obtain ⟨f2, ok⟩ := w
  subst h
  cases (f.complete fa).lastErr <;> rfl

end Bita

namespace Bita.Proofs
open Bita BufSt TFile

/-- C01 T3a / C12: `buffered(n)` emits its inputs in submission order under every schedule. -/
theorem buffered_preserves_order {α : Type} (n : Nat) (xs : List α) (sched : List SchedEv) :
    let s := stageRun "buffered" n xs sched
    s.out ++ s.inflight.map (·.1) ++ s.input = xs :=
  List.foldlRecOn (motive := fun s => content s = xs) sched _ rfl
    fun s hs e _ => by rw [if_pos rfl, content_stepOrdered, hs]

theorem buffered_complete {α : Type} (n : Nat) (xs : List α) (sched : List SchedEv) :
    let s := stageRun "buffered" n xs sched
    s.inflight = [] → s.input = [] → s.out = xs :=
  fun hf hi => content_of_drained _ hf hi ▸ buffered_preserves_order n xs sched

/-- Seen on the settled file: as long as no error is remembered, the failing write `m` is among
the next `r` writes. -/
def FailAhead (m r : Nat) (g : TFile) : Prop :=
  g.lastErr = false → g.performed ≤ m ∧ m < g.performed + r

theorem cloneTail_go_fail (m : Nat) (ws : List (Nat × Bytes)) (f : TFile)
    (h : FailAhead m ws.length (f.complete (some m)))
    (hok : (cloneTail.go (some m) f ws).2 = true) :
    ((cloneTail.go (some m) f ws).1.complete (some m)).lastErr = true := by
  induction ws generalizing f with
  | nil =>
    cases hE : (f.complete (some m)).lastErr with
    | true => exact hE
    | false => exact absurd (h hE).2 (Nat.not_lt.mpr (h hE).1)
  | cons w ws ih =>
    obtain ⟨off, b⟩ := w
    rw [cloneTail_go_cons] at hok ⊢
    cases hE : (f.complete (some m)).lastErr with
    | true => rw [hE] at hok; cases hok
    | false =>
      rw [hE] at hok
      refine ih _ ?_ hok
      rw [complete_write b (complete_seek (some m) f off) hE]
      split
      · nofun
      · rename_i hne
        exact fun _ => ⟨Nat.lt_of_le_of_ne (h hE).1 fun e => hne (congrArg some e.symm),
          Nat.lt_of_lt_of_eq (h hE).2 (Nat.add_right_comm _ _ 1)⟩

theorem cloneTail_fail (m : Nat) (f : TFile) (writes : List (Nat × Bytes)) (total : Nat)
    (h : FailAhead m writes.length (f.complete (some m))) :
    (cloneTail true (some m) f writes total).1 = false := by
  have hg := cloneTail_go_fail m writes f h
  simp only [cloneTail]
  cases hok : (cloneTail.go (some m) f writes).2 with
  | false => simp
  | true => simp [flush, hg hok]

/-- C05 T2: whichever write fails, the tail of `clone_archive` - with the flush that the source
has (`Gen.cloneOutputFlushedBeforeResize`) - does not report success. -/
theorem failed_write_not_success (f : TFile) (hclean : f.inflight = none ∧ f.lastErr = false)
    (writes : List (Nat × Bytes)) (total : Nat) (k : Nat) (hk : k < writes.length) :
    (cloneTail true (some (f.performed + k)) f writes total).1 = false := by
  apply cloneTail_fail
  rw [complete_of_inflight_none _ f hclean.1]
  exact fun _ => ⟨Nat.le_add_right _ _, Nat.add_lt_add_left hk _⟩

theorem cloneTail_go_none (ws : List (Nat × Bytes)) (f : TFile) (hE : (f.complete none).lastErr = false) :
    ∃ f1, cloneTail.go none f ws = (f1, true) ∧ (f1.complete none).lastErr = false ∧
      (f1.complete none).data = ws.foldl (fun d w => writeAt d w.1 w.2) (f.complete none).data := by
  induction ws generalizing f with
  | nil => exact ⟨f, rfl, hE, rfl⟩
  | cons w ws ih =>
    obtain ⟨off, b⟩ := w
    have hc := complete_write b (complete_seek none f off) hE
    rw [if_neg nofun] at hc
    obtain ⟨f1, hg, hE1, hd1⟩ := ih ((f.seek none off).write none b).1 (by rw [hc]; exact hE)
    refine ⟨f1, ?_, hE1, ?_⟩
    · rw [cloneTail_go_cons, hE]; exact hg
    · rw [hd1, hc]; rfl

theorem cloneTail_none (flushes : Bool) (f : TFile) (hE : f.lastErr = false)
    (writes : List (Nat × Bytes)) (total : Nat) :
    cloneTail flushes none f writes total =
      (true, setLen (writes.foldl (fun d w => writeAt d w.1 w.2) (f.complete none).data) total) := by
  obtain ⟨f1, hg, hE1, hd1⟩ := cloneTail_go_none writes f (by simpa using hE)
  simp only [cloneTail, hg]
  cases flushes <;> simp [flush, hE1, TFile.setLen, hd1]

/-- With no failing write the tail reports success and the file holds every write, resized. -/
theorem no_fault_success (f : TFile) (hclean : f.inflight = none ∧ f.lastErr = false)
    (writes : List (Nat × Bytes)) (total : Nat) :
    cloneTail true none f writes total =
      (true, setLen (writes.foldl (fun d w => writeAt d w.1 w.2) f.data) total) := by
  rw [cloneTail_none true f hclean.2, complete_of_inflight_none none f hclean.1]

theorem writeAt_end (d b : Bytes) : writeAt d d.length b = d ++ b := by
  simp [writeAt]

/-- Seen on the settled file: no error is remembered, and the position is the end of the data. -/
def AtEnd (g : TFile) : Prop := g.lastErr = false ∧ g.pos = g.data.length

theorem foldl_write_none (chunks : List Bytes) (f : TFile) (h : AtEnd (f.complete none)) :
    AtEnd ((chunks.foldl (fun f b => (f.write none b).1) f).complete none) ∧
      ((chunks.foldl (fun f b => (f.write none b).1) f).complete none).data
        = (f.complete none).data ++ chunks.flatten := by
  induction chunks generalizing f with
  | nil => simpa using h
  | cons b bs ih =>
    have hc := complete_write b rfl h.1
    rw [if_neg nofun, h.2, writeAt_end] at hc
    obtain ⟨h1, h2⟩ := ih (f.write none b).1 (by rw [hc]; exact ⟨h.1, List.length_append.symm⟩)
    refine ⟨h1, ?_⟩
    rw [List.foldl_cons, h2, hc, List.flatten_cons, List.append_assoc]

theorem tempFileSeen_eq (flushes late : Bool) (h : flushes = true ∨ late = false) (chunks : List Bytes) :
    tempFileSeen flushes late chunks = chunks.flatten := by
  have H := foldl_write_none chunks (TFile.new []) ⟨rfl, rfl⟩
  have hd : _ = chunks.flatten := H.2
  rcases h with rfl | rfl
  · cases late <;> simp [tempFileSeen, flush, H.1.1, dropNow, hd]
  · cases flushes <;> simp [tempFileSeen, flush, H.1.1, dropNow, hd]

/-- C01 T3b / C11 / C12: with the flush that the source has (`Gen.cliTempFlushedBeforeReturn`),
the temp file seen by the re-open holds all stored chunks, whatever the timing of the last
background write. -/
theorem temp_file_complete (late : Bool) (chunks : List Bytes) :
    tempFileSeen true late chunks = chunks.flatten :=
  tempFileSeen_eq true late (.inl rfl) chunks

theorem flushes_are_in_the_source :
    Gen.cliTempFlushedBeforeReturn = true ∧ Gen.cloneOutputFlushedBeforeResize = true := by
  decide

end Bita.Proofs
