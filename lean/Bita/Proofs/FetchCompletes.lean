/-
  Transport scripts under which the run-level specification of C08 (`fetchAll`) delivers every
  chunk of a list.  Two sufficient conditions (every response complete; failures within the retry
  budget), and why no script completes *every* list.
-/
import Bita.Proofs.Http

namespace Bita.Proofs
open Bita Bita.Spec

def respFull : Resp → Bool
  | .full _ => true
  | _ => false

theorem fetchRun_budget (stop pos budget : Nat) (script : List Resp)
    (hbad : (script.filter respCut).length ≤ budget)
    (hne : ∀ r ∈ script, ∀ n fr, r ≠ Resp.part n fr false)
    (hfull : 1 ≤ (script.filter respFull).length) :
    ∃ p rq used rest, fetchRun stop pos budget script = (p, rq, RunEnd.done, rest) ∧
      script = used ++ rest ∧ (used.filter respFull).length ≤ 1 := by
  -- the branches of `fetchRun` are listed at `fetchRun_requests`
  fun_induction fetchRun stop pos budget script with
  | case1 => cases hfull
  | case2 _ _ s _ fr => exact ⟨_, _, [.full fr], s, rfl, rfl, Nat.le_refl 1⟩
  | case5 _ _ s _ n fr cut => exact ⟨_, _, [.part n fr cut], s, rfl, rfl, Nat.zero_le 1⟩
  -- a failing response with no retry left: by computation `respCut` counts it, so `hbad` is false
  | case3 | case6 => cases hbad
  | case8 _ _ _ _ n fr cut _ _ hcut =>
    cases cut
    · exact absurd rfl (hne _ (List.mem_cons_self ..) n fr)
    · exact absurd rfl hcut
  -- a failing response with a retry left: `respCut` counts it, `respFull` does not
  | case4 _ budget s _ _ _ _ _ _ heq ih | case7 _ budget s _ _ _ _ _ _ _ _ _ _ heq ih =>
    obtain ⟨_, _, used, _, hf, hs, h1⟩ := ih (Nat.le_sub_of_add_le (hbad : _ + 1 ≤ budget))
      (fun r hr => hne r (List.mem_cons_of_mem _ hr)) hfull
    cases heq.symm.trans hf
    exact ⟨_, _, _ :: used, _, rfl, congrArg _ hs, h1⟩

theorem fetchAll_budget (data : Bytes) (retry : Nat) :
    ∀ (runs : List (List ChunkOffset)) (script : List Resp),
      (script.filter respCut).length ≤ retry →
      (∀ r ∈ script, ∀ n fr, r ≠ Resp.part n fr false) →
      runs.length ≤ (script.filter respFull).length →
      (fetchAll data retry runs script).items = runs.flatten.map (exactItem data) := by
  intro runs
  induction runs with
  | nil => intro script _ _ _; simp [fetchAll]
  | cons run runs ih =>
    intro script hbad hne hfull
    rw [List.length_cons] at hfull
    obtain ⟨p, rq, used, rest, hf, rfl, h1⟩ := fetchRun_budget
      ((runRequest run).1 + (runRequest run).2) (runRequest run).1 retry script hbad hne
      (Nat.le_trans (Nat.le_add_left ..) hfull)
    rw [List.filter_append, List.length_append] at hbad hfull
    rw [fetchAll_cons, hf, List.flatten_cons, List.map_append,
      ← ih rest (Nat.le_trans (Nat.le_add_left ..) hbad)
        (fun r hr => hne r (List.mem_append_right _ hr)) (by omega)]
    rfl

theorem maximalRuns_replicate (k : Nat) :
    maximalRuns (List.replicate k (⟨0, 1⟩ : ChunkOffset)) = List.replicate k [⟨0, 1⟩] := by
  induction k with
  | zero => rfl
  | succ k ih =>
    rw [List.replicate_succ, maximalRuns, ih]
    cases k with
    | zero => rfl
    | succ k => simp [List.replicate_succ, ChunkOffset.stop]

/-- A transport script under which the run-level specification of C08 delivers every chunk of
the list (e.g. every response complete however fragmented; or failures within the retry
budget of each run). -/
def FetchCompletes (data : Bytes) (retry : Nat) (chunks : List ChunkOffset) (script : List Resp) : Prop :=
  (fetchAll data retry (maximalRuns chunks) script).items = chunks.map (exactItem data)

theorem fetchCompletes_of_full (data : Bytes) (retry : Nat) (chunks : List ChunkOffset) (script : List Resp)
    (hfull : ∀ r ∈ script, ∃ frags, r = Resp.full frags)
    (hlen : (maximalRuns chunks).length ≤ script.length) :
    FetchCompletes data retry chunks script := by
  unfold FetchCompletes
  rw [fetchAll_full data retry (maximalRuns chunks) script hfull hlen, (maximalRuns_spec chunks).1]

theorem fetchCompletes_of_budget (data : Bytes) (retry : Nat) (chunks : List ChunkOffset) (script : List Resp)
    (hbad : (script.filter respCut).length ≤ retry)
    (hnoend : ∀ r ∈ script, ∀ n frags, r ≠ Resp.part n frags false)
    (hlen : (maximalRuns chunks).length ≤ (script.filter respFull).length) :
    FetchCompletes data retry chunks script := by
  unfold FetchCompletes
  rw [fetchAll_budget data retry (maximalRuns chunks) script hbad hnoend hlen,
    (maximalRuns_spec chunks).1]

/-- No finite script delivers *every* in-range chunk list (a list may have more runs than the
script has responses), so a hypothesis quantified over all in-range chunk lists is never met for
non-empty archive bytes.  `clone_http_complete` asks only for the lists a clone can request. -/
theorem fetchCompletes_all_lists_unsatisfiable (data : Bytes) (retry : Nat) (script : List Resp)
    (hne : 1 ≤ data.length) :
    ¬ ∀ chunks : List ChunkOffset, (∀ c ∈ chunks, 1 ≤ c.size ∧ c.stop ≤ data.length) →
      FetchCompletes data retry chunks script := by
  intro h
  have hk := h (List.replicate (script.length + 1) ⟨0, 1⟩) (by
    intro c hc
    rw [List.eq_of_mem_replicate hc]
    exact ⟨Nat.le_refl _, by simpa [ChunkOffset.stop] using hne⟩)
  -- `script.length + 1` runs of one chunk each: all delivered would take as many responses, and a
  -- failed run ends the items with something that is not a chunk
  obtain ⟨k, tail, -, hitems, htail⟩ := fetchAll_prefix data retry _ script
    (fun r hr => ((maximalRuns_spec (List.replicate (script.length + 1) ⟨0, 1⟩)).2.1 r hr).2)
  rw [hk] at hitems
  rcases htail with ⟨-, -, hlen⟩ | ht | ht | ht
  · rw [maximalRuns_replicate, List.length_replicate] at hlen
    omega
  all_goals
    obtain ⟨c, -, hc⟩ := List.mem_map.1 (hitems ▸ List.mem_append_right _ (ht ▸ List.mem_singleton_self _))
    cases hc

end Bita.Proofs
