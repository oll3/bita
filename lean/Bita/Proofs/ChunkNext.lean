/-
  `RollingHashChunker::next` without case distinctions, and one byte at a time.

  The two `if`s of `skip_min_chunk` only say "go on to offset `limit - 1`, then feed up to offset
  `minSize - 1`, as far as the buffer reaches" (`upTo`), the hasher being fed the bytes in between.
  In that form (`RHState.next_eq`) a call of `next` is seen to be resumable after every byte, which
  relates it to the byte machine of `ChunkStreamMach` without an induction over any of its loops.
-/
import Bita.Model.Chunker

namespace Bita.Proofs
open Bita

theorem sub_eq_succ {x a : Nat} (h : a < x) : x - a = x - (a + 1) + 1 := by omega

theorem initLoop_zero (g : Hasher) (bs : Bytes) : initLoop g bs 0 = (g, 0) := by
  cases bs <;> rfl

theorem initLoop_nil (g : Hasher) (k : Nat) : initLoop g [] k = (g, 0) := by
  cases k <;> rfl

theorem initLoop_done (g : Hasher) (hd : g.initDone = true) (bs : Bytes) (k : Nat) :
    initLoop g bs k = (g, 0) := by
  cases k with
  | zero => exact initLoop_zero g bs
  | succ k => cases bs <;> simp [initLoop, hd]

theorem initLoop_cons (g : Hasher) (hd : g.initDone = false) (b : UInt8) (bs : Bytes) (k : Nat) :
    initLoop g (b :: bs) (k + 1) = ((initLoop (g.init b) bs k).1, (initLoop (g.init b) bs k).2 + 1) := by
  simp [initLoop, hd]

theorem initLoop_le (g : Hasher) (bs : Bytes) (k : Nat) : (initLoop g bs k).2 ≤ k := by
  induction k generalizing g bs with
  | zero => rw [initLoop_zero]; exact Nat.le_refl _
  | succ k ih =>
    cases bs with
    | nil => rw [initLoop_nil]; exact Nat.zero_le _
    | cons b bs =>
      cases hd : g.initDone with
      | true => rw [initLoop_done g hd]; exact Nat.zero_le _
      | false => rw [initLoop_cons g hd]; exact Nat.succ_le_succ (ih _ _)

theorem feedN_zero (g : Hasher) (bs : Bytes) : feedN g bs 0 = g := by
  cases bs <;> rfl

theorem scanN_zero (m : U32) (g : Hasher) (bs : Bytes) : scanN m g bs 0 = (g, 0, false) := by
  cases bs <;> rfl

theorem scanN_nil (m : U32) (g : Hasher) (k : Nat) : scanN m g [] k = (g, 0, false) := by
  cases k <;> rfl

/-- `hash_input_limit`: truncated subtraction says it all. -/
theorem limit_ofConfig (f : FilterConfig) : (RHParams.ofConfig f).limit = f.minSize - f.window := by
  simp only [RHParams.ofConfig]
  split <;> omega

/-- Where a phase that runs "up to offset `l - 1`" gets from offset `a` with `h` bytes buffered. -/
def upTo (a l h : Nat) : Nat := min (max a (l - 1)) h

/-- The form both `if`s of `skip_min_chunk` have. -/
theorem upTo_ite {a l h : Nat} (ha : a ≤ h) :
    (if 0 < l ∧ a < l then min (l - 1) h else a) = upTo a l h := by
  unfold upTo
  by_cases c : 0 < l ∧ a < l
  · rw [if_pos c, Nat.max_eq_right (by omega)]
  · rw [if_neg c, Nat.max_eq_left (by omega), Nat.min_eq_left ha]

theorem upTo_of_le {a l h : Nat} (ha : a ≤ h) (hl : l ≤ a + 1) : upTo a l h = a := by
  rw [upTo, Nat.max_eq_left (by omega), Nat.min_eq_left ha]

theorem upTo_stop {a l h : Nat} (hs : a = h ∨ (l ≤ a ∧ a ≤ h)) : upTo a l h = a := by
  rcases hs with rfl | ⟨h1, h2⟩
  · exact Nat.min_eq_right (Nat.le_max_left _ _)
  · exact upTo_of_le h2 (Nat.le_succ_of_le h1)

theorem upTo_succ {a l h : Nat} (hl : a + 1 < l) : upTo a l h = upTo (a + 1) l h := by
  rw [upTo, upTo, Nat.max_eq_right (by omega), Nat.max_eq_right (by omega)]

theorem le_upTo {a l h : Nat} (ha : a ≤ h) : a ≤ upTo a l h :=
  Nat.le_min.2 ⟨Nat.le_max_left _ _, ha⟩

/-- `scan_for_boundary` at offset `a` with hasher `g`, and the answer of `next`. -/
def scanFrom (p : RHParams) (rest : Bytes) (h : Nat) (g : Hasher) (a : Nat) : RHState × Option Nat :=
  let r := scanN p.mask g (rest.drop a) (min p.maxSize h - a)
  if r.2.2 = true ∨ p.maxSize ≤ a + r.2.1 then (⟨r.1, 0⟩, some (a + r.2.1))
  else (⟨r.1, a + r.2.1⟩, none)

/-- `RollingHashChunker::next` from `skip_min_chunk` on, at offset `a` with hasher `g`. -/
def skipScan (p : RHParams) (rest : Bytes) (h : Nat) (g : Hasher) (a : Nat) : RHState × Option Nat :=
  let off2 := upTo a p.limit h
  let off3 := upTo off2 p.minSize h
  scanFrom p rest h (feedN g (rest.drop off2) (off3 - off2)) off3

variable {p : RHParams} {rest : Bytes} {h : Nat} {g : Hasher}

theorem RHState.next_eq {o : Nat} (ho : o ≤ h) :
    RHState.next p ⟨g, o⟩ rest h =
      skipScan p rest h (initLoop g (rest.drop o) (h - o)).1
        (o + (initLoop g (rest.drop o) (h - o)).2) := by
  have hn1 := Nat.add_le_of_le_sub' ho (initLoop_le g (rest.drop o) (h - o))
  rcases e1 : initLoop g (rest.drop o) (h - o) with ⟨g1, n1⟩
  rw [e1] at hn1
  have e2 := upTo_ite (l := p.limit) hn1
  have e3 := upTo_ite (l := p.minSize) (a := upTo (o + n1) p.limit h) (h := h)
    (by unfold upTo; omega)
  unfold RHState.next skipScan scanFrom
  simp only [e1, e2]
  by_cases c : 0 < p.minSize ∧ upTo (o + n1) p.limit h < p.minSize
  · rw [if_pos c] at e3
    simp only [if_pos c, e3]
  · -- nothing to feed: the offsets coincide
    rw [if_neg c] at e3
    simp only [if_neg c, ← e3, Nat.sub_self, feedN_zero]

variable {b : UInt8}

theorem BuzHash.input_fields (h : BuzHash) (b : UInt8) :
    (h.input b).full = h.full ∧ (h.input b).window = h.window ∧ (h.input b).filled = h.filled := by
  unfold BuzHash.input
  dsimp only
  split <;> split <;> simp

theorem initDone_input (g : Hasher) (b : UInt8) : (g.input b).initDone = g.initDone := by
  cases g with
  | roll h => rfl
  | buz h => exact (BuzHash.input_fields h b).1

/-- What the byte at offset `i` of the chunk does to a hasher past its warm-up, and whether it is a
boundary.  (`D`: warm-up done, `initDone`; `stepG` below is the general step, for any hasher.) -/
def stepD (p : RHParams) (g : Hasher) (b : UInt8) (i : Nat) : Hasher × Bool :=
  if i + 1 < p.limit then (g, false)
  else if i + 1 < p.minSize then (g.input b, false)
  else (g.input b, decide ((g.input b).sum ||| p.mask = (g.input b).sum))

theorem initDone_stepD (p : RHParams) (g : Hasher) (b : UInt8) (i : Nat) :
    (stepD p g b i).1.initDone = g.initDone := by
  fun_cases stepD p g b i
  · rfl
  · exact initDone_input g b
  · exact initDone_input g b

theorem scanFrom_step {a : Nat} (ha : a < h) (hb : rest.drop a = b :: rest.drop (a + 1))
    (hm : a < p.maxSize) :
    scanFrom p rest h g a =
      if (g.input b).sum ||| p.mask = (g.input b).sum then (⟨g.input b, 0⟩, some (a + 1))
      else scanFrom p rest h (g.input b) (a + 1) := by
  rw [scanFrom, scanFrom, sub_eq_succ (Nat.lt_min.2 ⟨hm, ha⟩), hb, scanN]
  by_cases ht : (g.input b).sum ||| p.mask = (g.input b).sum
  · rw [if_pos ht, if_pos ht]
    simp
  · rw [if_neg ht, if_neg ht]
    simp only [Nat.add_assoc, Nat.add_comm 1]

theorem skipScan_step {a : Nat} (ha : a < h) (hb : rest.drop a = b :: rest.drop (a + 1))
    (hm : a < p.maxSize) :
    skipScan p rest h g a =
      if (stepD p g b a).2 = true then (⟨(stepD p g b a).1, 0⟩, some (a + 1))
      else skipScan p rest h (stepD p g b a).1 (a + 1) := by
  have ha' : a + 1 ≤ h := ha
  fun_cases stepD p g b a with
  | case1 h1 =>
    -- passed over: `skip_min_chunk` goes on to `limit - 1` from either offset
    rw [if_neg Bool.false_ne_true, skipScan, skipScan, upTo_succ h1]
  | case2 h1 h2 =>
    -- fed: one turn of the loop of `skip_min_chunk`
    have h1 := Nat.le_of_not_lt h1
    rw [if_neg Bool.false_ne_true, skipScan, skipScan, upTo_of_le (Nat.le_of_lt ha) h1,
      upTo_of_le ha' (Nat.le_succ_of_le h1), upTo_succ h2,
      sub_eq_succ (le_upTo (l := p.minSize) ha'), hb, feedN]
  | case3 h1 h2 =>
    -- fed and tested: one turn of `scan_for_boundary`
    have h1 := Nat.le_of_not_lt h1
    have h2 := Nat.le_of_not_lt h2
    rw [skipScan, skipScan, upTo_of_le (Nat.le_of_lt ha) h1, upTo_of_le (Nat.le_of_lt ha) h2,
      upTo_of_le ha' (Nat.le_succ_of_le h1), upTo_of_le ha' (Nat.le_succ_of_le h2), Nat.sub_self,
      Nat.sub_self, feedN_zero, feedN_zero, scanFrom_step ha hb hm]
    simp only [decide_eq_true_eq]

/-- `stepD` with the warm-up: what the byte at offset `i` does to any hasher. -/
def stepG (p : RHParams) (g : Hasher) (b : UInt8) (i : Nat) : Hasher × Bool :=
  if g.initDone = true then stepD p g b i else (g.init b, false)

theorem stepG_init (hd : g.initDone = false) (b : UInt8) (i : Nat) :
    stepG p g b i = (g.init b, false) :=
  if_neg (by simp [hd])

theorem stepG_done (hd : g.initDone = true) (b : UInt8) (i : Nat) : stepG p g b i = stepD p g b i :=
  if_pos hd

/-- Past the warm-up, or with nothing more buffered, the warm-up loop does nothing. -/
theorem RHState.next_done {o : Nat} (ho : o ≤ h) (hd : o < h → g.initDone = true) :
    RHState.next p ⟨g, o⟩ rest h = skipScan p rest h g o := by
  have : initLoop g (rest.drop o) (h - o) = (g, 0) := by
    by_cases hlt : o < h
    · exact initLoop_done g (hd hlt) _ _
    · rw [show h - o = 0 by omega, initLoop_zero]
  rw [next_eq ho, this]
  rfl

theorem RHState.next_step {o : Nat} (ho : o < h) (hb : rest.drop o = b :: rest.drop (o + 1))
    (hm : o < p.maxSize) :
    RHState.next p ⟨g, o⟩ rest h =
      if (stepG p g b o).2 = true then (⟨(stepG p g b o).1, 0⟩, some (o + 1))
      else RHState.next p ⟨(stepG p g b o).1, o + 1⟩ rest h := by
  cases hd : g.initDone with
  | false =>
    -- one turn of the warm-up loop
    rw [stepG_init hd, if_neg Bool.false_ne_true, next_eq (Nat.le_of_lt ho),
      next_eq (show o + 1 ≤ h from ho), sub_eq_succ ho, hb,
      initLoop_cons g hd, Nat.add_assoc, Nat.add_comm 1]
  | true =>
    rw [stepG_done hd, next_done (Nat.le_of_lt ho) fun _ => hd, skipScan_step ho hb hm,
      next_done ho fun _ => (initDone_stepD ..).trans hd]

/-- `hs` covers the two situations in which `next` has nothing left to do at offset `a`: the
buffer is used up, or all three phases (`limit`, `minSize`, `maxSize`) lie behind. -/
theorem skipScan_stop {a : Nat}
    (hs : a = h ∨ (p.limit ≤ a ∧ p.minSize ≤ a ∧ p.maxSize ≤ a ∧ a ≤ h)) :
    skipScan p rest h g a = if p.maxSize ≤ a then (⟨g, 0⟩, some a) else (⟨g, a⟩, none) := by
  have e2 : upTo a p.limit h = a := upTo_stop (hs.imp_right fun k => ⟨k.1, k.2.2.2⟩)
  have e3 : upTo a p.minSize h = a := upTo_stop (hs.imp_right fun k => ⟨k.2.1, k.2.2.2⟩)
  have e4 : min p.maxSize h ≤ a :=
    hs.elim (· ▸ Nat.min_le_right _ _) fun k => Nat.le_trans (Nat.min_le_left _ _) k.2.2.1
  rw [skipScan, e2, e3, Nat.sub_self, feedN_zero, scanFrom, Nat.sub_eq_zero_of_le e4, scanN_zero]
  simp

end Bita.Proofs
