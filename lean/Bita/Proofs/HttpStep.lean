/-
  One attempt of `CR.run`.  With a request open it feeds the response to the reader and goes on as
  `afterFeed` says: the three kinds of response differ only in the fragments that arrive and in
  whether the transfer ends in an error.  From a state inside a run that is one `drain` (`run_step`).

  And how a run starts: with no request open and an empty buffer, `ensureReq` asks for the whole of
  the first run, up to where the chunks stop being adjacent (`run_ensure`, `ensureReq_run`).
-/
import Bita.Proofs.HttpCore

namespace Bita.Proofs
open Bita Bita.Spec

variable (serve : Nat → Nat → Bytes) (retry : Nat)

/-- What `CR.run` does with the outcome of feeding it one response to the request `q`; `cut` says
whether the transfer ended with an error.  (A refused request is a transfer cut after no bytes, a
complete response one that ends cleanly.) -/
def afterFeed (s : List Resp) (q : Nat × Nat) (cut : Bool) : FeedRes → Out
  | .stop its => ⟨its, [q]⟩
  | .runDone its st2 =>
    ⟨its ++ (CR.run serve retry s st2).items, q :: (CR.run serve retry s st2).reqs⟩
  | .bodyDone its st2 =>
    if cut then
      match st2.req with
      | some (off2, size2, rl2) =>
        if rl2 = 0 then ⟨its ++ [Item.errHttp], [q]⟩
        else
          ⟨its ++ (CR.run serve retry s { st2 with req := some (off2, size2, rl2 - 1) }).items,
            q :: (CR.run serve retry s { st2 with req := some (off2, size2, rl2 - 1) }).reqs⟩
      | none => ⟨its, [q]⟩
    else ⟨its ++ [Item.errEnd], [q]⟩

theorem splitBy_flatten (ns : List Nat) (b : Bytes) : (splitBy ns b).flatten = b := by
  fun_induction splitBy ns b with
  | case1 b h | case3 _ _ b h => exact (List.isEmpty_iff.1 h).symm
  | case2 b => exact List.append_nil b
  | case4 n ns b _ ih => rw [List.flatten_cons, ih, List.take_append_drop]

/-- The fragments in which the body `body` arrives in one attempt. -/
def frames (body : Bytes) : Resp → List Bytes
  | .refuse => []
  | .full fr => splitBy fr body
  | .part n fr _ => splitBy fr (body.take n)

/-- The bytes of the body `body` that arrive in one attempt. -/
def recv (body : Bytes) : Resp → Bytes
  | .refuse => []
  | .full _ => body
  | .part n _ _ => body.take n

theorem frames_flatten (body : Bytes) (x : Resp) : (frames body x).flatten = recv body x := by
  cases x with
  | refuse => rfl
  | _ => exact splitBy_flatten _ _

/-- Whether the attempt ends with a transfer error (which costs a retry). -/
def respCut : Resp → Bool
  | .refuse => true
  | .full _ => false
  | .part _ _ cut => cut

variable {serve retry} {c : ChunkOffset} {cs r rest : List ChunkOffset} {buf : Bytes}
  {adj off size rl : Nat}

theorem run_open (script : List Resp) (hbuf : buf.length < c.size) (hne : 0 < size) :
    CR.run serve retry script ⟨c :: cs, buf, adj, some (off, size, rl)⟩ =
      match script with
      | [] => ⟨[Item.stall], [(off, size)]⟩
      | x :: s => afterFeed serve retry s (off, size) (respCut x)
          (CR.feed (frames (serve off size) x) ⟨c :: cs, buf, adj, some (off, size, rl)⟩) := by
  rw [CR.run]
  dsimp only
  rw [drain_short hbuf]
  dsimp only [CR.ensureReq, List.isEmpty_cons]
  rw [if_neg Bool.false_ne_true, if_neg Bool.false_ne_true,
    if_neg (Nat.ne_of_gt (Nat.add_pos_right off hne))]
  -- what is left is `afterFeed` written out once for each kind of response
  cases script with
  | nil => rfl
  | cons x s =>
    cases x with
    | refuse => rfl
    | full | part =>
      dsimp only [frames]
      generalize CR.feed _ _ = d
      cases d <;> rfl

/-- One attempt inside a run is one `drain` with the bytes `b` that count behind the buffer.  `b` is
free (`hx`): `HttpResume` puts a `slice` of the data for it, `HttpSafe` what two servers share. -/
theorem run_step (hrest : ∀ c ∈ rest.head?, 1 ≤ c.size) {x : Resp} {s : List Resp} {b : Bytes}
    (hb : buf.length + size = total (c :: r)) (hc : buf.length < c.size)
    (hx : (recv (serve off size) x).take size = b) :
    CR.run serve retry (x :: s) ⟨c :: r ++ rest, buf, (c :: r).length, some (off, size, rl)⟩ =
      afterFeed serve retry s (off, size) (respCut x)
        (feedOf (CR.drain (c :: r ++ rest) (buf ++ b) (c :: r).length
          (some (off + b.length, size - b.length, rl)))) := by
  rw [List.cons_append, run_open _ hc (missing_pos hb hc), ← List.cons_append]
  dsimp only
  rw [feed_eq_drain hrest hb hc, frames_flatten, hx]

theorem run_nil_chunks (script : List Resp) (adj : Nat) :
    CR.run serve retry script ⟨[], [], adj, none⟩ = ⟨[], []⟩ := by
  rw [CR.run]; simp [CR.drain]

theorem run_ensure {script : List Resp} (hc : 1 ≤ c.size) :
    CR.run serve retry script ⟨c :: cs, [], adj, none⟩ =
      CR.run serve retry script (CR.ensureReq retry ⟨c :: cs, [], adj, none⟩) := by
  rw [CR.run.eq_1 serve retry script ⟨c :: cs, [], adj, none⟩,
    CR.run.eq_1 serve retry script (CR.ensureReq retry ⟨c :: cs, [], adj, none⟩)]
  dsimp only [CR.ensureReq]
  rw [drain_short (buf := []) hc, drain_short (buf := []) hc]

theorem adjacentReads_run : ∀ {r : List ChunkOffset} {c : ChunkOffset},
    Contiguous (c :: r) → (∀ a ∈ (c :: r).getLast?, ∀ b ∈ rest.head?, a.stop ≠ b.offset) →
    adjacentReads (c :: r ++ rest) = (c :: r).length := by
  intro r
  induction r with
  | nil =>
    intro c _ hsep
    cases rest with
    | nil => rfl
    | cons b rest => exact if_neg (hsep c rfl b rfl)
  | cons d r ih =>
    intro c hc hsep
    exact (if_pos hc.1).trans (congrArg (· + 1) (ih hc.2 (List.getLast?_cons_cons ▸ hsep)))

theorem drop_headD_getLast (rest : List ChunkOffset) (r : List ChunkOffset) :
    ∀ (c dflt : ChunkOffset),
      ((c :: r ++ rest).drop r.length).headD dflt = (c :: r).getLast (by simp) := by
  induction r with
  | nil => intro _ _; rfl
  | cons d r ih => intro c dflt; exact (ih d dflt).trans (List.getLast_cons (by simp)).symm

theorem ensureReq_run (hc : Contiguous (c :: r))
    (hsep : ∀ a ∈ (c :: r).getLast?, ∀ b ∈ rest.head?, a.stop ≠ b.offset) :
    CR.ensureReq retry ⟨c :: r ++ rest, buf, adj, none⟩ =
      ⟨c :: r ++ rest, [], (c :: r).length, some (c.offset, total (c :: r), retry)⟩ := by
  have hl := drop_headD_getLast rest r c c
  simp only [CR.ensureReq, List.cons_append] at hl ⊢
  rw [← List.cons_append, adjacentReads_run hc hsep, List.length_cons, Nat.add_sub_cancel,
    List.cons_append, hl, contiguous_getLast_stop hc, Nat.add_sub_cancel_left]

end Bita.Proofs
