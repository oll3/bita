/-
  The dedup table of the archive writers (`Bita.dedup`): what holds of the unique chunks and the
  rebuild order after every chunk folded in (`Inv`) - unique by full hash, first-occurrence order,
  every source chunk named by an index of a chunk with its hash.
-/
import Bita.Proofs.Fold
import Bita.Model.Compress

namespace Bita.Proofs.WriterDedup
open Bita

/-- One step of the fold in `dedup`: `dedup H chunks` unfolds to `chunks.foldl (step H) ([], [])`. -/
def step (H : Bytes → Bytes) (acc : List Bytes × List Nat) (c : Bytes) : List Bytes × List Nat :=
  match acc.1.findIdx? (fun u => H u = H c) with
  | some i => (acc.1, acc.2 ++ [i])
  | none => (acc.1 ++ [c], acc.2 ++ [acc.1.length])

/-- The invariant of the fold after the chunks `done` have been processed. -/
structure Inv (H : Bytes → Bytes) (done uniq : List Bytes) (order : List Nat) : Prop where
  nodup : (uniq.map H).Nodup
  len : order.length = done.length
  idx : ∀ i (hi : i < done.length), ∃ j u, order[i]? = some j ∧ uniq[j]? = some u ∧ H u = H done[i]
  sub : ∀ u ∈ uniq, u ∈ done
  first : order.eraseDups = List.range uniq.length

variable {H : Bytes → Bytes} {done uniq : List Bytes} {order : List Nat}

theorem Inv.mem_order (inv : Inv H done uniq order) {i : Nat} : i ∈ order ↔ i < uniq.length := by
  rw [← List.mem_eraseDups, inv.first, List.mem_range]

theorem Inv.count (inv : Inv H done uniq order) : uniq.length ≤ done.length := by
  simpa using inv.nodup.length_le_of_subset (List.map_subset H fun u hu => inv.sub u hu)

theorem eraseDups_snoc (l : List Nat) (x : Nat) :
    (l ++ [x]).eraseDups = if x ∈ l then l.eraseDups else l.eraseDups ++ [x] := by
  rw [List.eraseDups_append]
  by_cases h : x ∈ l <;> simp [List.removeAll, h, List.eraseDups_cons]

theorem step_cases (H : Bytes → Bytes) (uniq : List Bytes) (order : List Nat) (c : Bytes) :
    (∃ i, ∃ hi : i < uniq.length, H uniq[i] = H c ∧ step H (uniq, order) c = (uniq, order ++ [i])) ∨
    ((∀ u ∈ uniq, H u ≠ H c) ∧ step H (uniq, order) c = (uniq ++ [c], order ++ [uniq.length])) := by
  unfold step
  split
  · rename_i i hfi
    obtain ⟨hi, hp, -⟩ := List.findIdx?_eq_some_iff_getElem.mp hfi
    exact .inl ⟨i, hi, by simpa using hp, rfl⟩
  · rename_i hfn
    exact .inr ⟨fun u hu => by simpa using List.findIdx?_eq_none_iff.mp hfn u hu, rfl⟩

theorem idx_snoc {uniq' : List Bytes} {c : Bytes} {j0 : Nat} {u0 : Bytes} (inv : Inv H done uniq order)
    (hmono : ∀ (j : Nat) (u : Bytes), uniq[j]? = some u → uniq'[j]? = some u)
    (hj : uniq'[j0]? = some u0) (hu : H u0 = H c) :
    ∀ i (hi : i < (done ++ [c]).length),
      ∃ j u, (order ++ [j0])[i]? = some j ∧ uniq'[j]? = some u ∧ H u = H (done ++ [c])[i] := by
  intro i hi
  by_cases h : i < done.length
  · obtain ⟨j', u', h1, h2, h3⟩ := inv.idx i h
    refine ⟨j', u', ?_, hmono _ _ h2, ?_⟩
    · rw [List.getElem?_append_left (inv.len ▸ h)]; exact h1
    · rw [List.getElem_append_left h]; exact h3
  · obtain rfl : i = done.length := by
      rw [List.length_append, List.length_singleton] at hi
      omega
    refine ⟨j0, u0, ?_, hj, ?_⟩
    · rw [← inv.len]; exact List.getElem?_concat_length
    · rw [List.getElem_concat_length rfl]; exact hu

theorem inv_step (c : Bytes) (inv : Inv H done uniq order) :
    Inv H (done ++ [c]) (step H (uniq, order) c).1 (step H (uniq, order) c).2 := by
  rcases step_cases H uniq order c with ⟨i, hi, hp, hs⟩ | ⟨hne, hs⟩
  · rw [hs]
    refine ⟨inv.nodup, by simp [inv.len], ?_, fun u hu => List.mem_append_left _ (inv.sub u hu), ?_⟩
    · exact idx_snoc inv (fun _ _ h => h) (List.getElem?_eq_getElem hi) hp
    · rw [eraseDups_snoc, if_pos (inv.mem_order.mpr hi)]; exact inv.first
  · rw [hs]
    refine ⟨?_, by simp [inv.len], ?_, ?_, ?_⟩
    · rw [List.map_append, List.nodup_append]
      refine ⟨inv.nodup, List.pairwise_singleton _ _, fun a ha b hb => ?_⟩
      obtain ⟨u, hu, rfl⟩ := List.mem_map.mp ha
      exact List.mem_singleton.mp hb ▸ hne u hu
    · refine idx_snoc inv (fun j u h => ?_) List.getElem?_concat_length rfl
      rw [List.getElem?_append_left (List.getElem?_eq_some_iff.mp h).1]; exact h
    · exact fun u hu => (List.mem_append.mp hu).elim (fun h => List.mem_append_left _ (inv.sub u h))
        (List.mem_append_right _)
    · rw [eraseDups_snoc, if_neg (fun h => Nat.lt_irrefl _ (inv.mem_order.mp h)), inv.first,
        List.length_append, List.length_singleton, List.range_succ]

theorem inv_dedup (H : Bytes → Bytes) (chunks : List Bytes) :
    Inv H chunks (dedup H chunks).1 (dedup H chunks).2 :=
  have h0 : Inv H [] [] [] := ⟨.nil, rfl, nofun, nofun, rfl⟩
  List.nil_append chunks ▸
    foldl_fed (P := fun acc done => Inv H done acc.1 acc.2) (f := step H) (s := ([], []))
      (fun c inv => inv_step c inv) chunks h0

end Bita.Proofs.WriterDedup
