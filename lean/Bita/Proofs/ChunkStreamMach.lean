/-
  `RollingHashChunker::next` as a byte-at-a-time machine over the buffered bytes (C09, delivery
  independence; the rule of C09 T5 is proved on the same machine in `ChunkRuleMach`).

  `mach` consumes a list, so "more bytes were buffered" is an append, and a poll on a longer buffer
  is the poll on the shorter one carried on (`mach_append`): that is all of `next_grow`.
-/
import Bita.Proofs.ChunkNext
import Bita.Proofs.ValidLemmas
namespace Bita.Proofs
open Bita
namespace CS

/-- Number of `init` bytes a hasher still wants.  At least one while `full` is unset: only an
`init` sets it, also when `window = 0` leaves no place to fill. -/
def need : Hasher → Nat
  | .roll _ => 0
  | .buz h => if h.full then 0 else max 1 (h.window - h.filled)

theorem need_eq_zero (g : Hasher) : need g = 0 ↔ g.initDone = true := by
  cases g with
  | roll h => simp [need, Hasher.initDone]
  | buz h => cases hf : h.full <;> simp [need, Hasher.initDone, hf]

theorem need_init (g : Hasher) (b : UInt8) (hd : g.initDone = false) :
    need (g.init b) + 1 = need g := by
  cases g with
  | roll h => cases hd
  | buz h =>
    have hf : h.full = false := hd
    simp only [need, Hasher.init, BuzHash.init, hf, Bool.false_eq_true, if_false, decide_eq_true_eq]
    by_cases hw : h.window - 1 ≤ h.filled
    · rw [if_pos hw, Nat.max_eq_left (by omega)]
    · -- `init` counts one up, and at least two places were free
      have hlt : h.filled + 1 < h.window := Nat.add_lt_of_lt_sub (Nat.lt_of_not_le hw)
      rw [if_neg hw, if_neg (Nat.not_le_of_lt hlt), Nat.max_eq_right (Nat.sub_pos_of_lt hlt),
        Nat.max_eq_right (Nat.sub_pos_of_lt (Nat.lt_of_succ_lt hlt)),
        ← sub_eq_succ (Nat.lt_of_succ_lt hlt)]

theorem need_input (g : Hasher) (b : UInt8) : need (g.input b) = need g := by
  cases g with
  | roll h => rfl
  | buz h => simp only [need, Hasher.input, BuzHash.input_fields]

theorem feedN_need (g : Hasher) (bs : Bytes) (j : Nat) : need (feedN g bs j) = need g := by
  induction j generalizing g bs with
  | zero => rw [feedN_zero]
  | succ j ih =>
    cases bs with
    | nil => rfl
    | cons b bs => rw [feedN, ih, need_input]

theorem need_stepD (p : RHParams) (g : Hasher) (b : UInt8) (i : Nat) :
    need (stepD p g b i).1 = need g := by
  fun_cases stepD p g b i
  · rfl
  · exact need_input g b
  · exact need_input g b

variable {p : RHParams} {g : Hasher} {rest : Bytes} {i h : Nat}

theorem stepG_need (b : UInt8) (hinv : i + need g ≤ p.maxSize) (h : i < p.maxSize) :
    (i + 1) + need (stepG p g b i).1 ≤ p.maxSize := by
  cases hd : g.initDone with
  | false =>
    have := need_init g b hd
    rw [stepG_init hd]; show i + 1 + need (g.init b) ≤ p.maxSize; omega
  | true =>
    have := (need_eq_zero g).2 hd
    rw [stepG_done hd, need_stepD]; omega

/-- Byte-at-a-time presentation of `RollingHashChunker::next`: `i` is the offset in the chunk, the
list holds the buffered bytes from there on. -/
def mach (p : RHParams) (g : Hasher) (l : Bytes) (i : Nat) : RHState × Option Nat :=
  if p.maxSize ≤ i then (⟨g, 0⟩, some i)
  else match l with
    | [] => (⟨g, i⟩, none)
    | b :: bs =>
      if (stepG p g b i).2 = true then (⟨(stepG p g b i).1, 0⟩, some (i + 1))
      else mach p (stepG p g b i).1 bs (i + 1)

theorem mach_nil (p : RHParams) (g : Hasher) (i : Nat) :
    mach p g [] i = if p.maxSize ≤ i then (⟨g, 0⟩, some i) else (⟨g, i⟩, none) := by
  rw [mach.eq_def]

theorem mach_max {bs : Bytes} (h : p.maxSize ≤ i) :
    mach p g bs i = (⟨g, 0⟩, some i) := by
  rw [mach.eq_def, if_pos h]

theorem mach_cons {b : UInt8} {bs : Bytes} (h : ¬ p.maxSize ≤ i) :
    mach p g (b :: bs) i =
      if (stepG p g b i).2 = true then (⟨(stepG p g b i).1, 0⟩, some (i + 1))
      else mach p (stepG p g b i).1 bs (i + 1) := by
  rw [mach.eq_def, if_neg h]

theorem mach_append (p : RHParams) (l1 l2 : Bytes) (g : Hasher) (i : Nat) :
    mach p g (l1 ++ l2) i =
      match mach p g l1 i with
      | (st', none) => mach p st'.hasher l2 st'.off
      | r => r := by
  -- the cases of `mach`: maximum size, out of bytes, a boundary, one byte on
  fun_induction mach p g l1 i with
  | case1 g l1 i hm => exact mach_max hm
  | case2 => rfl
  | case3 g i hm b l1 hb => rw [List.cons_append, mach_cons hm, if_pos hb]
  | case4 g i hm b l1 hb ih => rw [List.cons_append, mach_cons hm, if_neg hb, ih]

theorem mach_stop (hpos : 1 ≤ p.maxSize) {l : Bytes} (hinv : i + need g ≤ p.maxSize)
    (hlen : i + l.length = h) {st' : RHState} {r : Option Nat} (hm : mach p g l i = (st', r)) :
    st'.off + need st'.hasher ≤ p.maxSize ∧
      match (generalizing := false) r with
      | none => st'.off = h ∧ h < p.maxSize
      | some n => st'.off = 0 ∧ 1 ≤ n ∧ n ≤ h := by
  have fits {i g} (hi : i + need g ≤ p.maxSize) : 0 + need g ≤ p.maxSize :=
    Nat.le_trans (Nat.add_le_add_right (Nat.zero_le i) _) hi
  fun_induction mach p g l i with
  | case1 g l i hmx =>
    cases hm
    exact ⟨fits hinv, rfl, Nat.le_trans hpos hmx, by omega⟩
  | case2 g i hmx =>
    cases hm
    obtain rfl : i = h := hlen
    exact ⟨hinv, rfl, Nat.lt_of_not_le hmx⟩
  | case3 g i hmx b l hb =>
    cases hm
    rw [List.length_cons] at hlen
    exact ⟨fits (stepG_need b hinv (Nat.lt_of_not_le hmx)), rfl, Nat.succ_pos i, by omega⟩
  | case4 g i hmx b l hb ih =>
    rw [List.length_cons] at hlen
    exact ih (stepG_need b hinv (Nat.lt_of_not_le hmx)) (by omega) hm

/-- Parameter facts used (all follow from `FilterConfig.Sane`). -/
structure POK (p : RHParams) : Prop where
  lim : p.limit = 0 ∨ p.limit < p.minSize
  mm : p.minSize ≤ p.maxSize
  pos : 1 ≤ p.maxSize

theorem buf_end (rest : Bytes) (h : Nat) : (rest.take h).drop h = [] :=
  List.drop_eq_nil_of_le (by rw [List.length_take]; exact Nat.min_le_left _ _)

theorem buf_cons {b : UInt8} (hb : rest.drop i = b :: rest.drop (i + 1))
    (hi : i < h) : (rest.take h).drop i = b :: (rest.take h).drop (i + 1) := by
  rw [List.drop_take, List.drop_take, hb, sub_eq_succ hi, List.take_succ_cons]

theorem buf_length (hi : i ≤ h) (hl : h ≤ rest.length) :
    i + ((rest.take h).drop i).length = h := by
  rw [List.length_drop, List.length_take, Nat.min_eq_left hl]; omega

theorem buf_grow (rest : Bytes) {h' : Nat} (hi : i ≤ h) (hh : h ≤ h') (hl : h ≤ rest.length) :
    (rest.take h').drop i = (rest.take h).drop i ++ (rest.take h').drop h := by
  rw [← List.drop_append_of_le_length (by rw [List.length_take]; omega), ← Nat.min_eq_left hh,
    ← List.take_take, Nat.min_eq_left hh, List.take_append_drop]

theorem next_eq_mach (hp : POK p) {o : Nat} (ho : o ≤ h) (hl : h ≤ rest.length)
    (hinv : o + need g ≤ p.maxSize) :
    RHState.next p ⟨g, o⟩ rest h = mach p g ((rest.take h).drop o) o := by
  obtain ⟨k, rfl⟩ := Nat.exists_eq_add_of_le ho
  induction k generalizing g o with
  | zero =>
    rw [Nat.add_zero, buf_end, mach_nil,
      RHState.next_done (Nat.le_refl _) (absurd · (Nat.lt_irrefl _)), skipScan_stop (.inl rfl)]
  | succ k ih =>
    by_cases hm : p.maxSize ≤ o
    · have hmin := Nat.le_trans hp.mm hm
      have hlim : p.limit ≤ o :=
        hp.lim.elim (· ▸ Nat.zero_le _) fun l => Nat.le_trans (Nat.le_of_lt l) hmin
      rw [mach_max hm, RHState.next_done ho fun _ => (need_eq_zero g).1 (by omega),
        skipScan_stop (.inr ⟨hlim, hmin, hm, ho⟩), if_pos hm]
    · have ho' : o < o + (k + 1) := Nat.lt_add_of_pos_right k.succ_pos
      have hm' := Nat.lt_of_not_le hm
      have e : o + (k + 1) = o + 1 + k := (Nat.succ_add_eq_add_succ o k).symm
      obtain ⟨b, hb⟩ : ∃ b, rest.drop o = b :: rest.drop (o + 1) :=
        ⟨_, List.drop_eq_getElem_cons (Nat.lt_of_lt_of_le ho' hl)⟩
      rw [buf_cons hb ho', mach_cons hm, RHState.next_step ho' hb hm']
      rw [e] at hl ⊢
      rw [ih (stepG_need b hinv hm') (Nat.le_add_right _ _) hl]

end CS

/-- Maximum chunk size a chunker works with. -/
def chunkerMax : Chunker → Nat
  | .rolling p _ => p.maxSize
  | .fixed n => n

namespace CS

/-- Kept by every poll, `have_` bytes being buffered: the offset lies within them and, with the
warm-up bytes still owed (`need`), within `maxSize`: the warm-up is over where the maximum cuts. -/
def CInv : Chunker → Nat → Prop
  | .rolling p st, have_ => POK p ∧ st.off ≤ have_ ∧ st.off + need st.hasher ≤ p.maxSize
  | .fixed n, _ => 1 ≤ n

theorem CInv_mono {c : Chunker} {h h' : Nat} (hh : h ≤ h') (hi : CInv c h) : CInv c h' := by
  cases c with
  | rolling p st => obtain ⟨a, b, c⟩ := hi; exact ⟨a, by omega, c⟩
  | fixed n => exact hi

theorem CInv_pos {c : Chunker} {h : Nat} (hi : CInv c h) : 1 ≤ chunkerMax c := by
  cases c with
  | rolling p st => exact hi.1.pos
  | fixed n => exact hi

theorem next_rolling (p : RHParams) (st : RHState) (rest : Bytes) (h : Nat) :
    (Chunker.rolling p st).next rest h = (.rolling p (st.next p rest h).1, (st.next p rest h).2) := by
  rw [Chunker.next]

/-- `Chunker::next` is compositional in the number of buffered bytes. -/
theorem next_grow {c c' : Chunker} {rest : Bytes} {h : Nat} {r : Option Nat} (hi : CInv c h)
    (hl : h ≤ rest.length) (hn : c.next rest h = (c', r)) :
    chunkerMax c' = chunkerMax c ∧
      match (generalizing := false) r with
      | none => CInv c' h ∧ h < chunkerMax c ∧
          ∀ h', h ≤ h' → h' ≤ rest.length → c'.next rest h' = c.next rest h'
      | some n => CInv c' 0 ∧ 1 ≤ n ∧ n ≤ h ∧
          ∀ h', h ≤ h' → h' ≤ rest.length → c.next rest h' = (c', some n) := by
  cases c with
  | fixed m =>
    rw [Chunker.next] at hn
    by_cases hm : m ≤ h
    · rw [if_pos hm] at hn
      cases hn
      exact ⟨rfl, hi, hi, hm, fun h' hh' _ => by rw [Chunker.next, if_pos (by omega)]⟩
    · rw [if_neg hm] at hn
      cases hn
      exact ⟨rfl, hi, by show h < m; omega, fun _ _ _ => rfl⟩
  | rolling p st =>
    obtain ⟨g, o⟩ := st
    obtain ⟨hp, ho, hinv⟩ := hi
    dsimp only at ho hinv
    rw [next_rolling, next_eq_mach hp ho hl hinv] at hn
    rcases hr : mach p g ((rest.take h).drop o) o with ⟨⟨g', o'⟩, r'⟩
    rw [hr] at hn
    cases hn
    obtain ⟨k1, k2⟩ := mach_stop hp.pos hinv (buf_length ho hl) hr
    refine ⟨rfl, ?_⟩
    -- on a longer buffer (`buf_grow`) the machine runs over the old one first (`mach_append`)
    cases r' with
    | none =>
      obtain rfl : o' = h := k2.1
      refine ⟨⟨hp, Nat.le_refl _, k1⟩, k2.2, fun h' hh' hl' => ?_⟩
      rw [next_rolling, next_rolling, next_eq_mach hp hh' hl' k1,
        next_eq_mach hp (Nat.le_trans ho hh') hl' hinv, buf_grow rest ho hh' hl, mach_append, hr]
    | some n =>
      refine ⟨⟨hp, Nat.le_of_eq k2.1, k1⟩, k2.2.1, k2.2.2, fun h' hh' hl' => ?_⟩
      rw [next_rolling, next_eq_mach hp (Nat.le_trans ho hh') hl' hinv, buf_grow rest ho hh' hl,
        mach_append, hr]

theorem POK_ofConfig (f : FilterConfig) (hv : f.Sane) : POK (RHParams.ofConfig f) := by
  obtain ⟨h1, h2, h3⟩ := hv
  exact ⟨by rw [limit_ofConfig]; show _ ∨ _ < f.minSize; omega, h3, h2⟩

theorem CInv_ofConfig (cfg : Config) (hv : cfg.Valid) : CInv (Chunker.ofConfig cfg) 0 := by
  cases cfg with
  | fixed n => exact hv
  | rollsum f => exact ⟨POK_ofConfig f (FilterConfig.Sane_of_ValidRoll hv), Nat.le_refl _, Nat.zero_le _⟩
  | buzhash f =>
    refine ⟨POK_ofConfig f (FilterConfig.Sane_of_Valid hv), Nat.le_refl _, ?_⟩
    have := hv.1
    have := hv.window_le
    show 0 + max 1 (f.window - 0) ≤ f.maxSize
    omega

end CS
end Bita.Proofs
