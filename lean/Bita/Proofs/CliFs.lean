/-
  File-system level theorems about the CLI flows (C14, C16).  Each command is unfolded once, into
  the stages it can stop at (`cli_clone_cases`, `cli_compress_eq`); what a stage leaves in the file
  system is read off the map laws of `CliFsLemmas`.
-/
import Bita.Proofs.CloneRun
import Bita.Proofs.CliFsLemmas
import Bita.Proofs.StepOrder

namespace Bita.Proofs
open Bita Bita.Gen

def FsOp.path : FsOp → String
  | .openWrite p _ => p
  | .openRead p => p
  | .write p => p
  | .truncate p => p
  | .unlink p => p

def FsOp.isReadOnly : FsOp → Bool
  | .openRead _ => true
  | _ => false

/-- The facts read from the source that the theorems below are about. -/
def FactsAsExpected : Prop :=
  cloneStepOrder = ["try_init", "banner", "pin", "open_output", "device_check", "scan_output", "reorder",
                    "seed_stdin", "seed_files", "fetch", "flush", "resize", "verify_output"] ∧
  compressStepOrder = ["open_output", "chunk_input", "build_header", "write_header", "copy_temp", "remove_temp", "print_info"] ∧
  cloneSeedOpen = "File::open" ∧ cloneArchiveOpen = "File::open" ∧ cloneOtherFsCalls = [] ∧
  pinComparesFullBytes = true

theorem factsAsExpected : FactsAsExpected :=
  ⟨clone_step_order_fact, compress_step_order_fact, rfl, rfl, rfl, rfl⟩

def nodeIsDev (n : Node) : Bool := match n with | .blockdev _ => true | .regular _ => false

/-- A seed file is missing, and the device-size check does not stop the run before it gets there. -/
def cliSeedMissing (c : CloneCmd) (fs1 : Fs) (a : Archive) (onode : Node) : Bool :=
  c.seedPaths.any (fun p => (fs1.get p).isNone) &&
    !(nodeIsDev onode && decide (onode.data.length < a.sourceTotalSize))

def cliCloneOpts (c : CloneCmd) (isDev : Bool) : CloneOpts :=
  { seedOutput := c.flags.seedOutput, verifyOutput := c.flags.verifyOutput, headerPin := c.pin,
    blockDev := isDev }

def cliSeeds (c : CloneCmd) (fs1 : Fs) : List Bytes := c.seedPaths.filterMap fun p => (fs1.get p).map (·.data)

/-- What a finished `Clone.run` leaves at the level of the file system. -/
def cliCloneDone (c : CloneCmd) (fs1 : Fs) (ops1 : List FsOp) (isDev : Bool) (r : CloneOut) : CmdOut :=
  ⟨decide (r.result = .ok),
   fs1.set c.output (if isDev then Node.blockdev r.output else Node.regular r.output),
   ops1 ++ (c.seedPaths.map FsOp.openRead) ++
    (if (r.log.any fun op => match op with | .write .. => true | .read .. => false) then [FsOp.write c.output] else []) ++
    (if (decide (r.result = .ok) && !isDev) then [FsOp.truncate c.output] else [])⟩

/-- `Cli.clone` from the point where the output is open and holds `onode`. -/
def cliCloneRun (H : Bytes → Bytes) (decomp : Nat → Bytes → Nat → Option Bytes) (c : CloneCmd)
    (fs1 : Fs) (archive : Bytes) (a : Archive) (ops1 : List FsOp) (onode : Node) : CmdOut :=
  if cliSeedMissing c fs1 a onode then ⟨false, fs1, ops1 ++ [FsOp.write c.output]⟩
  else cliCloneDone c fs1 ops1 (nodeIsDev onode)
    (Clone.run H decomp [] (honestReadAt archive) (honestReadChunks archive)
      (cliCloneOpts c (nodeIsDev onode)) onode.data (cliSeeds c fs1))

/-- What is logged up to and including the open of the output. -/
def cloneOpenOps (c : CloneCmd) : List FsOp :=
  [.openRead c.archivePath, .openWrite c.output (cloneFlags c.flags).describe]

theorem cli_clone_eq (H : Bytes → Bytes) (decomp : Nat → Bytes → Nat → Option Bytes) (c : CloneCmd) (fs : Fs) :
    Cli.clone H decomp c fs =
      match fs.get c.archivePath with
      | none => ⟨false, fs, []⟩
      | some an =>
        match tryInit H [] (honestReadAt an.data) with
        | .ok a =>
          if pinBad c.pin a then ⟨false, fs, [.openRead c.archivePath]⟩
          else match fs.openOut c.output (cloneFlags c.flags) with
            | none => ⟨false, fs, cloneOpenOps c⟩
            | some fs1 =>
              match fs1.get c.output with
              | none => ⟨false, fs1, cloneOpenOps c⟩
              | some onode => cliCloneRun H decomp c fs1 an.data a (cloneOpenOps c) onode
        | _ => ⟨false, fs, [.openRead c.archivePath]⟩ := by
  unfold Cli.clone
  rfl

theorem cli_clone_run {H : Bytes → Bytes} {decomp : Nat → Bytes → Nat → Option Bytes} {c : CloneCmd}
    {fs fs1 : Fs} {an onode : Node} {a : Archive} (ha : fs.get c.archivePath = some an)
    (hok : tryInit H [] (honestReadAt an.data) = .ok a) (hpin : pinBad c.pin a = false)
    (ho : fs.openOut c.output (cloneFlags c.flags) = some fs1) (hget : fs1.get c.output = some onode) :
    Cli.clone H decomp c fs = cliCloneRun H decomp c fs1 an.data a (cloneOpenOps c) onode := by
  simp only [cli_clone_eq, ha, hok, hpin, ho, hget, Bool.false_eq_true, if_false]

theorem cli_clone_cases (H : Bytes → Bytes) (decomp : Nat → Bytes → Nat → Option Bytes) (c : CloneCmd) (fs : Fs) :
    ((∀ an a, fs.get c.archivePath = some an → tryInit H [] (honestReadAt an.data) = .ok a →
        pinBad c.pin a = true) ∧
      ∃ ops, Cli.clone H decomp c fs = ⟨false, fs, ops⟩ ∧ ∀ op ∈ ops, op = .openRead c.archivePath) ∨
    ∃ an a, fs.get c.archivePath = some an ∧ tryInit H [] (honestReadAt an.data) = .ok a ∧
      pinBad c.pin a = false ∧
      ((fs.openOut c.output (cloneFlags c.flags) = none ∧
          Cli.clone H decomp c fs = ⟨false, fs, cloneOpenOps c⟩) ∨
        ∃ fs1 onode, fs.openOut c.output (cloneFlags c.flags) = some fs1 ∧ fs1.get c.output = some onode ∧
          Cli.clone H decomp c fs = cliCloneRun H decomp c fs1 an.data a (cloneOpenOps c) onode) := by
  rw [cli_clone_eq]
  cases ha : fs.get c.archivePath with
  | none => exact .inl ⟨fun _ _ h _ => (nomatch h), [], rfl, fun _ h => (nomatch h)⟩
  | some an =>
    have stop : ∀ op ∈ [FsOp.openRead c.archivePath], op = .openRead c.archivePath :=
      fun _ h => List.mem_singleton.mp h
    dsimp only
    cases hok : tryInit H [] (honestReadAt an.data) with
    | ok a =>
      dsimp only
      cases hpin : pinBad c.pin a with
      | true =>
        exact .inl ⟨fun _ _ h1 h2 => by cases h1; cases hok.symm.trans h2; exact hpin, _, rfl, stop⟩
      | false =>
        refine .inr ⟨an, a, rfl, hok, hpin, ?_⟩
        rw [if_neg Bool.false_ne_true]
        cases ho : fs.openOut c.output (cloneFlags c.flags) with
        | none => exact .inl ⟨rfl, rfl⟩
        | some fs1 =>
          -- the output exists once it has been opened
          obtain ⟨onode, hget⟩ := Option.isSome_iff_exists.1 (fs_openOut_isSome ho (.inr rfl))
          exact .inr ⟨fs1, onode, rfl, hget, by simp only [hget]⟩
    | _ => exact .inl ⟨fun _ _ h1 h2 => by cases h1; exact (nomatch hok.symm.trans h2), _, rfl, stop⟩

theorem cliCloneRun_small {H : Bytes → Bytes} (decomp : Nat → Bytes → Nat → Option Bytes) {c : CloneCmd}
    -- unique paths: the device is written back as it was, which then leaves the file system as it is
    {fs1 : Fs} (hfs : (fs1.map (·.1)).Nodup) {archive : Bytes} {a : Archive} (ops1 : List FsOp) {dev : Bytes}
    (hinit : tryInit H [] (honestReadAt archive) = .ok a)
    (hget : fs1.get c.output = some (.blockdev dev)) (hsmall : dev.length < a.sourceTotalSize) :
    (cliCloneRun H decomp c fs1 archive a ops1 (.blockdev dev)).ok = false ∧
      (cliCloneRun H decomp c fs1 archive a ops1 (.blockdev dev)).fs = fs1 := by
  have hcond : cliSeedMissing c fs1 a (.blockdev dev) = false := by
    simp [cliSeedMissing, nodeIsDev, Node.data, hsmall]
  rw [cliCloneRun, hcond, if_neg Bool.false_ne_true, cliCloneDone]
  rcases run_cases decomp (honestReadChunks archive) (cliCloneOpts c (nodeIsDev (.blockdev dev)))
    (Node.blockdev dev).data (cliSeeds c fs1) hinit with ⟨hr, ho, -⟩ | ⟨ix, st1, -, -, -, hroom, -⟩
  · rw [ho]
    exact ⟨decide_eq_false hr, fs_set_self hfs hget⟩
  · exact absurd ⟨rfl, hsmall⟩ hroom

/-- What one clone may do to the file system: read-only opens, and anything but an unlink at the
output path. -/
def OpConfined (c : CloneCmd) (op : FsOp) : Prop :=
  (FsOp.isReadOnly op = true ∨ FsOp.path op = c.output) ∧ ∀ p, op ≠ FsOp.unlink p

theorem cloneOpenOps_confined (c : CloneCmd) : ∀ op ∈ cloneOpenOps c, OpConfined c op := by
  intro op hop
  simp only [cloneOpenOps, List.mem_cons, List.not_mem_nil, or_false] at hop
  rcases hop with rfl | rfl
  · exact ⟨.inl rfl, fun _ => nofun⟩
  · exact ⟨.inr rfl, fun _ => nofun⟩

theorem cliCloneRun_shape (H : Bytes → Bytes) (decomp : Nat → Bytes → Nat → Option Bytes) (c : CloneCmd)
    (fs1 : Fs) (archive : Bytes) (a : Archive) (ops1 : List FsOp) (onode : Node) :
    (∃ more, (cliCloneRun H decomp c fs1 archive a ops1 onode).ops = ops1 ++ more ∧
      ∀ op ∈ more, OpConfined c op) ∧
    ((cliCloneRun H decomp c fs1 archive a ops1 onode).fs = fs1 ∨
      ∃ node, (cliCloneRun H decomp c fs1 archive a ops1 onode).fs = fs1.set c.output node) := by
  have hw : OpConfined c (.write c.output) := ⟨.inr rfl, fun _ => nofun⟩
  unfold cliCloneRun
  split
  · exact ⟨⟨_, rfl, fun op h => List.mem_singleton.mp h ▸ hw⟩, .inl rfl⟩
  · refine ⟨⟨_, by rw [cliCloneDone, List.append_assoc, List.append_assoc], fun op h => ?_⟩, .inr ⟨_, rfl⟩⟩
    simp only [List.mem_append, List.mem_map, List.mem_ite_nil_right, List.mem_singleton] at h
    rcases h with ⟨p, -, rfl⟩ | ⟨-, rfl⟩ | ⟨-, rfl⟩
    · exact ⟨.inl rfl, fun _ => nofun⟩
    · exact hw
    · exact ⟨.inr rfl, fun _ => nofun⟩

/-- C16 T1: in every mode, every file-system operation of a clone is a read-only open (archive,
seeds) or concerns the output path; nothing is removed. -/
theorem clone_ops_confined (H : Bytes → Bytes) (decomp : Nat → Bytes → Nat → Option Bytes)
    (c : CloneCmd) (fs : Fs) :
    ∀ op ∈ (Cli.clone H decomp c fs).ops,
      (FsOp.isReadOnly op = true ∨ FsOp.path op = c.output) ∧ (∀ p, op ≠ FsOp.unlink p) := by
  rcases cli_clone_cases H decomp c fs with
    ⟨_, ops, heq, hops⟩ | ⟨an, a, _, _, _, ⟨_, heq⟩ | ⟨fs1, onode, _, _, heq⟩⟩ <;> rw [heq]
  · intro op h; rw [hops op h]; exact ⟨.inl rfl, fun _ => nofun⟩
  · exact cloneOpenOps_confined c
  · obtain ⟨⟨more, hops, hmore⟩, _⟩ := cliCloneRun_shape H decomp c fs1 an.data a (cloneOpenOps c) onode
    rw [hops]
    intro op h
    exact (List.mem_append.mp h).elim (cloneOpenOps_confined c op) (hmore op)

/-- ... and no path other than the output changes. -/
theorem clone_fs_confined (H : Bytes → Bytes) (decomp : Nat → Bytes → Nat → Option Bytes)
    (c : CloneCmd) (fs : Fs) (p : String) (hp : p ≠ c.output) :
    (Cli.clone H decomp c fs).fs.get p = fs.get p := by
  rcases cli_clone_cases H decomp c fs with
    ⟨_, ops, heq, _⟩ | ⟨an, a, _, _, _, ⟨_, heq⟩ | ⟨fs1, onode, ho, _, heq⟩⟩ <;> rw [heq]
  have h1 : fs1.get p = fs.get p := by rw [fs_get_openOut ho, if_neg hp]
  rcases (cliCloneRun_shape H decomp c fs1 an.data a (cloneOpenOps c) onode).2 with h | ⟨node, h⟩
  · rw [h, h1]
  · rw [h, fs_get_set, if_neg hp, h1]

/-- The file system a successful `compress` of `src` leaves, from the one in which output and temp
file are open: the stored chunks go over the temp file from offset 0, the header and the temp
file's content into the output, the temp file is removed. -/
def compressFs (H : Bytes → Bytes) (comp : Bytes → Bytes) (c : CompressCmd) (fs2 : Fs) (src : Bytes) : Fs :=
  let (dict, stored) := dictionaryOf H "cli" comp c.opts src
  let old := ((fs2.get c.temp).map (·.data)).getD []
  let written := if cliTempFlushedBeforeReturn then stored.flatten else []
  let fs3 := fs2.set c.temp (.regular (written ++ old.drop written.length))
  let tmpData := ((fs3.get c.temp).map (·.data)).getD []
  ((fs3.set c.output (.regular (buildHeader H dict none ++ tmpData))).remove c.temp)

theorem cli_compress_eq (H : Bytes → Bytes) (comp : Bytes → Bytes) (c : CompressCmd) (fs : Fs) :
    Cli.compress H comp c fs =
      match fs.openOut c.output (compressFlags c.flags) with
      | none => ⟨false, fs, [.openWrite c.output (compressFlags c.flags).describe]⟩
      | some fs1 =>
        match fs1.get c.input with
        | none => ⟨false, fs1, [.openWrite c.output (compressFlags c.flags).describe]⟩
        | some inode =>
          match fs1.openOut c.temp tempFlags with
          | none => ⟨false, fs1, [.openWrite c.output (compressFlags c.flags).describe, .openRead c.input,
              .openWrite c.temp tempFlags.describe]⟩
          | some fs2 => ⟨true, compressFs H comp c fs2 inode.data,
              [.openWrite c.output (compressFlags c.flags).describe, .openRead c.input,
                .openWrite c.temp tempFlags.describe, .write c.temp, .write c.output, .openRead c.temp,
                .unlink c.temp, .openRead c.output]⟩ := by
  unfold Cli.compress
  rfl

theorem compressFs_get {H : Bytes → Bytes} {comp : Bytes → Bytes} {c : CompressCmd} {fs2 : Fs} {src : Bytes}
    (hflush : cliTempFlushedBeforeReturn = true) (h2 : fs2.get c.temp = some (.regular [])) (p : String) :
    (compressFs H comp c fs2 src).get p =
      if p = c.temp then none
      else if p = c.output then some (.regular (createArchive H "cli" comp c.opts src))
      else fs2.get p := by
  unfold compressFs createArchive
  generalize dictionaryOf H "cli" comp c.opts src = ds
  obtain ⟨dict, stored⟩ := ds
  simp only [hflush, if_true, h2, fs_get_remove, fs_get_set, Option.map_some, Option.getD_some, Node.data,
    List.drop_nil, List.append_nil]
  by_cases hpt : p = c.temp
  · simp only [hpt, if_true]
  · simp only [hpt, if_false]

theorem compress_fs {H : Bytes → Bytes} {comp : Bytes → Bytes} {c : CompressCmd} {fs : Fs}
    (hto : c.temp ≠ c.output) (hio : c.input ≠ c.output) (hflush : cliTempFlushedBeforeReturn = true)
    (hnodev : ∀ d, fs.get c.temp ≠ some (.blockdev d)) (hok : (Cli.compress H comp c fs).ok = true) :
    ∃ inode, fs.get c.input = some inode ∧ ∀ p, (Cli.compress H comp c fs).fs.get p =
      if p = c.temp then none
      else if p = c.output then some (.regular (createArchive H "cli" comp c.opts inode.data))
      else fs.get p := by
  revert hok
  rw [cli_compress_eq]
  cases ho : fs.openOut c.output (compressFlags c.flags) with
  | none => exact fun h => nomatch h
  | some fs1 =>
    have h1 := fs_get_openOut ho
    dsimp only
    cases hin : fs1.get c.input with
    | none => exact fun h => nomatch h
    | some inode =>
      dsimp only
      -- `create(true).truncate(true)`: the temp file opens, and is empty whatever it held
      rw [fs_openOut_truncate tempFlags (by rw [h1, if_neg hto]; exact hnodev) rfl rfl rfl]
      refine fun _ => ⟨inode, by rw [← hin, h1, if_neg hio], fun p => ?_⟩
      dsimp only
      rw [compressFs_get hflush (by rw [fs_get_set, if_pos rfl])]
      -- the two sides differ in the last branch only, and neither open touched such a path
      exact ite_congr rfl (fun _ => rfl) fun hpt => ite_congr rfl (fun _ => rfl) fun hpo => by
        rw [fs_get_set, if_neg hpt, h1, if_neg hpo]

/-- C16 T2: a successful compress ends in the initial file system plus exactly the archive. -/
theorem compress_leaves_only_archive (H : Bytes → Bytes) (comp : Bytes → Bytes) (c : CompressCmd) (fs : Fs)
    (htmp : fs.get (c.temp) = none)
    (hdistinct : c.temp ≠ c.output ∧ c.input ≠ c.output ∧ c.input ≠ c.temp)
    (hflush : cliTempFlushedBeforeReturn = true) :
    let r := Cli.compress H comp c fs
    r.ok = true →
      (∀ p, p ≠ c.output → r.fs.get p = fs.get p) ∧
      (∃ src, (fs.get c.input).map (·.data) = some src ∧
        r.fs.get c.output = some (.regular (createArchive H "cli" comp c.opts src))) := by
  intro r hok
  obtain ⟨inode, hin, hget⟩ := compress_fs hdistinct.1 hdistinct.2.1 hflush
    (fun d h => by rw [htmp] at h; cases h) hok
  refine ⟨fun p hp => ?_, inode.data, by rw [hin]; rfl, by rw [hget, if_neg (Ne.symm hdistinct.1), if_pos rfl]⟩
  rw [hget, if_neg hp]
  split
  · next h => rw [h, htmp]
  · rfl

/-- C11 / C16: a stale temp file (left by an earlier, killed compress) does not leak into the
archive: the temp file is opened with `truncate(true)` (read from the source), so the archive
is the one of the sequential model and the temp file is gone afterwards. -/
theorem compress_ignores_stale_temp (H : Bytes → Bytes) (comp : Bytes → Bytes) (c : CompressCmd) (fs : Fs)
    (old : Bytes) (htmp : fs.get c.temp = some (.regular old))
    (hdistinct : c.temp ≠ c.output ∧ c.input ≠ c.output ∧ c.input ≠ c.temp)
    (hflush : cliTempFlushedBeforeReturn = true) :
    let r := Cli.compress H comp c fs
    r.ok = true →
      r.fs.get c.temp = none ∧
      (∃ src, (fs.get c.input).map (·.data) = some src ∧
        r.fs.get c.output = some (.regular (createArchive H "cli" comp c.opts src))) := by
  intro r hok
  obtain ⟨inode, hin, hget⟩ := compress_fs hdistinct.1 hdistinct.2.1 hflush
    (fun d h => by rw [htmp] at h; cases h) hok
  exact ⟨by rw [hget, if_pos rfl], inode.data, by rw [hin]; rfl,
    by rw [hget, if_neg (Ne.symm hdistinct.1), if_pos rfl]⟩

end Bita.Proofs
