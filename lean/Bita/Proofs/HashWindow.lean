/-
  The rolling hashes are functions of the trailing window (C09 T4, used by C10).

  Both follow from state invariants that can be re-established from any reachable state (the
  chunker passes bytes over, so the hasher does not see a contiguous stream).  For `BuzHash` the
  work is the soundness of the repeated-input shortcut (`RepOK`).
-/
import Bita.Proofs.Fold
import Bita.Spec.Chunking

namespace Bita.Proofs
open Bita Bita.Spec

theorem winAt_of_le (n : Nat) (data : Bytes) (p : Nat) (hn : n ≤ p) :
    winAt n data p = (data.drop (p - n)).take n := by
  rw [winAt, List.drop_append, List.drop_eq_nil_of_le (by simpa using hn), List.length_replicate,
    List.nil_append]

theorem length_winAt (n : Nat) (data : Bytes) (p : Nat) :
    (winAt n data p).length = min n (n + data.length - p) := by
  simp [winAt]

theorem winAt_append (n : Nat) (P S : Bytes) (q : Nat) (h : n ≤ q) :
    winAt n (P ++ S) (P.length + q) = (S.drop (q - n)).take n := by
  rw [winAt_of_le n _ _ (Nat.le_trans h (Nat.le_add_left ..)), Nat.add_sub_assoc h,
    List.drop_length_add_append]

theorem winAt_succ {n q : Nat} {data : Bytes} (hn : 1 ≤ n) {b : UInt8} (hb : data.drop q = b :: data.drop (q + 1)) :
    (winAt n data q).tail ++ [b] = winAt n data (q + 1) := by
  obtain ⟨m, rfl⟩ : ∃ m, n = m + 1 := ⟨n - 1, (Nat.sub_add_cancel hn).symm⟩
  -- behind the zero padding, `b` stands `m` places from the start of the new window
  have e : ((List.replicate (m + 1) (0 : UInt8) ++ data).drop (q + 1)).drop m
      = b :: data.drop (q + 1) := by
    rw [List.drop_drop, show q + 1 + m = m + 1 + q by omega, ← hb,
      ← List.drop_length_add_append q, List.length_replicate]
  rw [winAt, winAt, ← List.drop_one, List.drop_take, List.drop_drop, Nat.add_sub_cancel,
    List.take_add (i := m) (j := 1) (l := List.drop (q + 1) _), e]
  rfl

theorem drop_append_lastN {α} (fed bs : List α) {n : Nat} (h : n ≤ bs.length) :
    (fed ++ bs).drop ((fed ++ bs).length - n) = bs.drop (bs.length - n) := by
  rw [List.length_append, Nat.add_sub_assoc h, List.drop_length_add_append]

theorem drop_snoc {α} (fed : List α) (b : α) (k : Nat) :
    (fed ++ [b]).drop (fed.length + 1 - (k + 1)) = fed.drop (fed.length - k) ++ [b] := by
  rw [Nat.add_sub_add_right, List.drop_append_of_le_length (Nat.sub_le _ _)]

theorem lastN_snoc {α} (fed : List α) (b : α) {n : Nat} (hn : 1 ≤ n) (hlen : n ≤ fed.length) :
    (fed ++ [b]).drop (fed.length + 1 - n) = (fed.drop (fed.length - n)).tail ++ [b] := by
  obtain ⟨k, rfl⟩ : ∃ k, n = k + 1 := ⟨n - 1, (Nat.sub_add_cancel hn).symm⟩
  rw [drop_snoc, List.tail_drop, ← Nat.sub_add_comm hlen, Nat.add_sub_add_right]

theorem sumBytes_append_single (w : Bytes) (b : UInt8) :
    sumBytes (w ++ [b]) = sumBytes w + byteVal b := by
  induction w with
  | nil => simp [sumBytes]
  | cons a t ih => simp only [List.cons_append, sumBytes, ih, BitVec.add_assoc]

theorem weightedSum_append_single (w : Bytes) (b : UInt8) :
    weightedSum (w ++ [b]) = weightedSum w + sumBytes w + byteVal b := by
  induction w with
  | nil => simp [weightedSum, sumBytes]
  | cons a t ih =>
    simp only [List.cons_append, weightedSum, sumBytes, ih, List.length_append,
      List.length_singleton]
    rw [BitVec.ofNat_add (y := 1)]
    grind

theorem sumBytes_replicate_zero (n : Nat) : sumBytes (List.replicate n 0) = 0#32 := by
  induction n with
  | zero => rfl
  | succ k ih => simp [List.replicate_succ, sumBytes, ih, byteVal]

theorem weightedSum_replicate_zero (n : Nat) : weightedSum (List.replicate n 0) = 0#32 := by
  induction n with
  | zero => rfl
  | succ k ih => simp [List.replicate_succ, weightedSum, ih, byteVal]

/-- `s1` of a window in closed form: `31 n + Σ wᵢ`. -/
def rollS1 (w : Bytes) : U32 := 31#32 * BitVec.ofNat 32 w.length + sumBytes w

/-- `s2` of a window in closed form: `31 n (n-1) + Σ (n-i) wᵢ`. -/
def rollS2 (w : Bytes) : U32 :=
  31#32 * BitVec.ofNat 32 w.length * BitVec.ofNat 32 (w.length - 1) + weightedSum w

theorem rollS1_roll (b0 : UInt8) (t : Bytes) (b : UInt8) :
    rollS1 (t ++ [b]) = rollS1 (b0 :: t) + byteVal b - byteVal b0 := by
  rw [rollS1, rollS1, sumBytes_append_single, sumBytes, BitVec.eq_sub_iff_add_eq]
  simp only [List.length_append, List.length_cons, List.length_nil]
  ac_rfl

theorem rollS2_roll (b0 : UInt8) (t : Bytes) (b : UInt8) :
    rollS2 (t ++ [b]) = rollS2 (b0 :: t) + rollS1 (t ++ [b])
      - BitVec.ofNat 32 (t.length + 1) * (byteVal b0 + 31#32) := by
  rw [rollS1, rollS2, rollS2, weightedSum_append_single, sumBytes_append_single, weightedSum]
  simp only [List.length_append, List.length_cons, List.length_nil]
  grind

/-- The state `h` is the one determined by the window `w`. -/
def RollOK (h : RollSum) (w : Bytes) : Prop :=
  h.win = w ∧ h.s1 = rollS1 w ∧ h.s2 = rollS2 w

theorem charOffset_eq : charOffset = 31#32 := by decide

theorem RollOK_new (n : Nat) : RollOK (RollSum.new n) (List.replicate n 0) := by
  refine ⟨rfl, ?_, ?_⟩
  · rw [rollS1, sumBytes_replicate_zero, BitVec.add_zero, BitVec.mul_comm, List.length_replicate,
      ← charOffset_eq]
    rfl
  · rw [rollS2, weightedSum_replicate_zero, BitVec.add_zero, BitVec.mul_assoc, BitVec.mul_comm,
      List.length_replicate, ← charOffset_eq]
    rfl

theorem RollOK_sum {h : RollSum} {w : Bytes} (ok : RollOK h w) : h.sum = rollsumOf w := by
  obtain ⟨_, h1, h2⟩ := ok
  rw [RollSum.sum, h1, h2]
  rfl

theorem RollOK_input {h : RollSum} {w : Bytes} (ok : RollOK h w) (hw : 1 ≤ w.length) (b : UInt8) :
    RollOK (h.input b) (w.tail ++ [b]) := by
  -- with the state replaced by the closed forms, `input` computes their recurrences
  obtain ⟨s1, s2, win⟩ := h
  obtain ⟨rfl, rfl, rfl⟩ : win = w ∧ s1 = rollS1 w ∧ s2 = rollS2 w := ok
  cases win with
  | nil => simp at hw
  | cons b0 t =>
    exact ⟨rfl, (rollS1_roll b0 t b).symm,
      by rw [List.tail_cons, rollS2_roll b0, rollS1_roll b0]; rfl⟩

theorem RollOK_length {h : RollSum} {w : Bytes} (ok : RollOK h w) : h.win.length = w.length := by
  rw [ok.1]

theorem rollsum_feed (n : Nat) (hn : 1 ≤ n) (bs : Bytes) :
    ∀ (h : RollSum) (w : Bytes), w.length = n → RollOK h w →
      RollOK (bs.foldl RollSum.input h) ((w ++ bs).drop bs.length) := by
  induction bs with
  | nil => intro h w _ ok; simpa using ok
  | cons b bs ih =>
    intro h w hw ok
    cases w with
    | nil => simp at hw; omega
    | cons b0 t =>
      have := ih (h.input b) (t ++ [b]) (by simpa using hw) (RollOK_input ok (by simp) b)
      simpa using this

theorem rollsum_feed_sum (n : Nat) (hn : 1 ≤ n) (h : RollSum) (w : Bytes) (hw : w.length = n)
    (ok : RollOK h w) (bs : Bytes) :
    (bs.foldl RollSum.input h).sum = rollsumOf ((w ++ bs).drop bs.length) :=
  RollOK_sum (rollsum_feed n hn bs h w hw ok)

theorem rollsum_is_window_function (n : Nat) (hn : 1 ≤ n) (hist : Bytes) :
    (hist.foldl RollSum.input (RollSum.new n)).sum
      = rollsumOf (winAt n hist hist.length) := by
  rw [rollsum_feed_sum n hn _ _ (by simp) (RollOK_new n), winAt, List.take_of_length_le]
  simp

/-- Counting bits from the top, a rotation is a shift of the index: no case distinction. -/
theorem rotl_msb (x : U32) (k i : Nat) :
    (rotl x k).getMsbD i = (decide (i < 32) && x.getMsbD ((k + i) % 32)) :=
  BitVec.getMsbD_rotateLeft

theorem rotl_xor (x y : U32) (k : Nat) : rotl (x ^^^ y) k = rotl x k ^^^ rotl y k := by
  apply BitVec.eq_of_getMsbD_eq
  intro i hi
  simp only [rotl_msb, BitVec.getMsbD_xor, hi, decide_true, Bool.true_and]

theorem rotl_rotl (x : U32) (a b : Nat) : rotl (rotl x a) b = rotl x (a + b) := by
  apply BitVec.eq_of_getMsbD_eq
  intro i hi
  simp only [rotl_msb, hi, Nat.mod_lt _ (Nat.zero_lt_succ 31), decide_true, Bool.true_and,
    Nat.add_mod_mod, Nat.add_assoc]

theorem rotl_zero_left (k : Nat) : rotl 0#32 k = 0#32 := by
  apply BitVec.eq_of_getMsbD_eq
  intro i hi
  simp [rotl_msb]

theorem rotl_zero (x : U32) : rotl x 0 = x := by
  apply BitVec.eq_of_getMsbD_eq
  intro i hi
  simp [rotl_msb, hi, Nat.mod_eq_of_lt hi]

theorem buzOf_append_single (w : Bytes) (b : UInt8) :
    buzOf (w ++ [b]) = rotl (buzOf w) 1 ^^^ buzTable b := by
  induction w with
  | nil => simp [buzOf, rotl_zero, rotl_zero_left]
  | cons a t ih =>
    simp only [List.cons_append, buzOf, ih, List.length_append, List.length_singleton, rotl_xor,
      rotl_rotl, BitVec.xor_assoc]

/-- The left side is the update of `BuzHash::input`, with `w.map buzTable` in the ring. -/
theorem buzOf_roll (w : Bytes) (b : UInt8) :
    rotl (buzOf w) 1 ^^^ rotl ((w.map buzTable).headD 0) w.length ^^^ buzTable b
      = buzOf (w.tail ++ [b]) := by
  cases w with
  | nil => simp [buzOf, rotl_zero, rotl_zero_left]
  | cons b0 t =>
    -- the oldest byte's term, rotated once more, cancels against what is taken out
    rw [List.tail_cons, buzOf_append_single, buzOf, rotl_xor, rotl_rotl, List.map_cons,
      List.headD_cons, List.length_cons, BitVec.xor_comm (rotl (buzTable b0) _),
      BitVec.xor_assoc (rotl (buzOf t) 1), BitVec.xor_self, BitVec.xor_zero]

/-- The repeat counter is sound: the last `rep + 1` bytes fed (all of them, if fewer were fed)
equal `last`. -/
def RepOK (last : UInt8) (rep : Nat) (fed : Bytes) : Prop :=
  ∀ x ∈ fed.drop (fed.length - (rep + 1)), x = last

/-- `(last_input, repeated_input)` after one more byte (the same in `init` and `input`). -/
def repStep (last : UInt8) (rep : Nat) (b : UInt8) : UInt8 × Nat :=
  if b = last then (last, rep + 1) else (b, 0)

theorem RepOK_repStep {last : UInt8} {rep : Nat} {fed : Bytes} (ok : RepOK last rep fed) (b : UInt8) :
    RepOK (repStep last rep b).1 (repStep last rep b).2 (fed ++ [b]) := by
  intro x hx
  rw [List.length_append, List.length_singleton, drop_snoc, List.mem_append,
    List.mem_singleton] at hx
  by_cases hb : b = last
  · rw [repStep, if_pos hb] at hx ⊢
    exact hx.elim (ok x) (· ▸ hb)
  · rw [repStep, if_neg hb] at hx ⊢
    simpa using hx

theorem RepOK_window {last : UInt8} {rep : Nat} {fed : Bytes} (ok : RepOK last rep fed)
    {n : Nat} (hn : n ≤ rep + 1) (hlen : n ≤ fed.length) :
    fed.drop (fed.length - n) = List.replicate n last :=
  List.eq_replicate_iff.2 ⟨by rw [List.length_drop, Nat.sub_sub_self hlen], fun x hx =>
    ok x (List.drop_subset_drop_left fed (Nat.sub_le_sub_left hn _) hx)⟩

/-- In the repeat-skip branch the window does not change: the last `n + 1` bytes are equal. -/
theorem skip_window {last : UInt8} {rep : Nat} {fed : Bytes} (ok : RepOK last rep fed) (b : UInt8)
    {n : Nat} (hlen : n ≤ fed.length) (hskip : ¬ (repStep last rep b).2 < n) :
    (fed ++ [b]).drop (fed.length + 1 - n) = fed.drop (fed.length - n) := by
  have ok' := RepOK_repStep ok b
  have hn := Nat.le_of_not_lt hskip
  have hl : (fed ++ [b]).length = fed.length + 1 := by simp
  have h1 := RepOK_window ok' (Nat.succ_le_succ hn) (hl ▸ Nat.succ_le_succ hlen)
  rw [hl, drop_snoc, List.replicate_succ'] at h1
  rw [(List.append_inj' h1 rfl).1, ← hl]
  exact RepOK_window ok' (Nat.le_succ_of_le hn) (hl ▸ Nat.le_succ_of_le hlen)

theorem BuzHash.init_eq (h : BuzHash) (b : UInt8) (hf : h.full = false) :
    h.init b = { h with
      sum := h.sum ^^^ rotl (buzTable b) (h.window - (h.filled + 1))
      full := decide (h.window - 1 ≤ h.filled)
      win := h.win.tail ++ [buzTable b]
      filled := if h.filled + 1 ≥ h.window then 0 else h.filled + 1
      last := (repStep h.last h.rep b).1, rep := (repStep h.last h.rep b).2 } := by
  rw [BuzHash.init, hf, if_neg Bool.false_ne_true]
  rfl

theorem BuzHash.input_eq (h : BuzHash) (b : UInt8) :
    h.input b =
      if (repStep h.last h.rep b).2 < h.window then
        { h with
          sum := rotl h.sum 1 ^^^ rotl (h.win.headD 0) h.window ^^^ buzTable b
          win := h.win.tail ++ [buzTable b]
          last := (repStep h.last h.rep b).1, rep := (repStep h.last h.rep b).2 }
      else { h with last := (repStep h.last h.rep b).1, rep := (repStep h.last h.rep b).2 } :=
  rfl

/-- Warm-up: state after `init` on each byte of `fed`, fewer than `n` of them. -/
structure BuzWarm (h : BuzHash) (n : Nat) (fed : Bytes) : Prop where
  window : h.window = n
  full : h.full = false
  filled : h.filled = fed.length
  len : fed.length < n
  win : h.win = List.replicate (n - fed.length) 0 ++ fed.map buzTable
  sum : h.sum = rotl (buzOf fed) (n - fed.length)
  rep : RepOK h.last h.rep fed

/-- Rolling: state after feeding the byte sequence `fed` (`init` for the first `n`, `input`
afterwards), at least `n` of them. -/
structure BuzOK (h : BuzHash) (n : Nat) (fed : Bytes) : Prop where
  window : h.window = n
  full : h.full = true
  len : n ≤ fed.length
  win : h.win = (fed.drop (fed.length - n)).map buzTable
  sum : h.sum = buzOf (fed.drop (fed.length - n))
  rep : RepOK h.last h.rep fed

/-- Constructor in the `fed.length + 1` form: `(fed ++ [b]).length` does not unify with it. -/
theorem BuzOK.snoc {h : BuzHash} {n : Nat} {fed w : Bytes} {b : UInt8} (window : h.window = n)
    (full : h.full = true) (len : n ≤ fed.length + 1)
    (hw : (fed ++ [b]).drop (fed.length + 1 - n) = w) (win : h.win = w.map buzTable)
    (sum : h.sum = buzOf w) (rep : RepOK h.last h.rep (fed ++ [b])) : BuzOK h n (fed ++ [b]) := by
  subst hw
  have hl : (fed ++ [b]).length = fed.length + 1 := by simp
  exact ⟨window, full, hl ▸ len, hl ▸ win, hl ▸ sum, rep⟩

theorem BuzWarm_new (n : Nat) (hn : 1 ≤ n) : BuzWarm (BuzHash.new n) n [] where
  window := rfl
  full := rfl
  filled := rfl
  len := by show 0 < n; omega
  win := by simp [BuzHash.new]
  sum := by simp [BuzHash.new, buzOf, rotl_zero_left]
  rep := by simp [RepOK, BuzHash.new]

def BuzInv (h : BuzHash) (n : Nat) (fed : Bytes) : Prop := BuzWarm h n fed ∨ BuzOK h n fed

theorem BuzInv.ok {h : BuzHash} {n : Nat} {fed : Bytes} (inv : BuzInv h n fed)
    (hlen : n ≤ fed.length) : BuzOK h n fed :=
  inv.resolve_left fun w => Nat.not_le_of_lt w.len hlen

theorem BuzInv.warm {h : BuzHash} {n : Nat} {fed : Bytes} (inv : BuzInv h n fed)
    (hlen : fed.length < n) : BuzWarm h n fed :=
  inv.resolve_right fun o => Nat.not_le_of_lt hlen o.len

theorem BuzWarm_init {h : BuzHash} {n : Nat} {fed : Bytes} (ok : BuzWarm h n fed) (b : UInt8) :
    BuzInv (h.init b) n (fed ++ [b]) := by
  obtain ⟨hw, hf, hfl, hl, hwin, hsum, hrep⟩ := ok
  have hr := RepOK_repStep hrep b
  -- `n = fed.length + k + 1`: no truncated subtraction left, and the case distinction is on `k`
  obtain ⟨k, rfl⟩ := Nat.exists_eq_add_of_lt hl
  rw [Nat.add_assoc, Nat.add_sub_cancel_left] at hwin hsum
  have ewin : h.win.tail ++ [buzTable b] = List.replicate k 0 ++ (fed ++ [b]).map buzTable := by
    simp [hwin, List.replicate_succ]
  have esum : h.sum ^^^ rotl (buzTable b) k = rotl (buzOf (fed ++ [b])) k := by
    rw [hsum, buzOf_append_single, rotl_xor, rotl_rotl, Nat.add_comm]
  have hlen : (fed ++ [b]).length = fed.length + 1 := by simp
  have hk : fed.length + k + 1 - (fed ++ [b]).length = k := by
    rw [hlen, Nat.add_sub_add_right, Nat.add_sub_cancel_left]
  rw [BuzHash.init_eq h b hf, hw, hfl, Nat.add_sub_add_right, Nat.add_sub_cancel_left]
  cases k with
  | zero =>
    exact .inr (.snoc rfl (decide_eq_true (Nat.le_refl _)) (Nat.le_refl _) (by simp) ewin
      (esum.trans (rotl_zero _)) hr)
  | succ k =>
    have hlt : fed.length + 1 < fed.length + (k + 1) + 1 :=
      Nat.succ_lt_succ (Nat.lt_add_of_pos_right k.succ_pos)
    exact .inl ⟨rfl, decide_eq_false (Nat.not_le_of_lt (Nat.lt_of_succ_lt_succ hlt)),
      (if_neg (Nat.not_le_of_lt hlt)).trans hlen.symm, hlen ▸ hlt, hk.symm ▸ ewin,
      hk.symm ▸ esum, hr⟩

theorem BuzOK_input {h : BuzHash} {n : Nat} {fed : Bytes} (ok : BuzOK h n fed) (b : UInt8) :
    BuzOK (h.input b) n (fed ++ [b]) := by
  obtain ⟨hw, hf, hl, hwin, hsum, hrep⟩ := ok
  have hr := RepOK_repStep hrep b
  rw [BuzHash.input_eq, hw]
  split
  · next hroll =>
    refine .snoc rfl hf (Nat.le_succ_of_le hl) (lastN_snoc fed b (Nat.zero_lt_of_lt hroll) hl)
      ?_ ?_ hr
    · show h.win.tail ++ [buzTable b] = _
      rw [hwin, List.map_append, List.map_tail]; rfl
    · show rotl h.sum 1 ^^^ rotl (h.win.headD 0) n ^^^ buzTable b = _
      rw [← buzOf_roll, ← hwin, ← hsum, List.length_drop, Nat.sub_sub_self hl]
  · next hskip =>
    -- `window` equal bytes in a row: rolling one more through would change nothing
    exact .snoc rfl hf (Nat.le_succ_of_le hl) (skip_window hrep b hl hskip) hwin hsum hr

theorem BuzOK_sum {h : BuzHash} {n : Nat} {fed : Bytes} (ok : BuzOK h n fed) :
    h.sum = buzOf (fed.drop (fed.length - n)) := ok.sum

theorem BuzOK_feed {n : Nat} (bs : Bytes) :
    ∀ {h : BuzHash} {fed : Bytes}, BuzOK h n fed → BuzOK (bs.foldl BuzHash.input h) n (fed ++ bs) :=
  foldl_fed (P := (BuzOK · n ·)) (fun b ok => BuzOK_input ok b) bs

theorem BuzInv_step {h : BuzHash} {n : Nat} {fed : Bytes} (inv : BuzInv h n fed) (b : UInt8) :
    BuzInv (if h.full then h.input b else h.init b) n (fed ++ [b]) := by
  rcases inv with w | o
  · rw [w.full]
    exact BuzWarm_init w b
  · rw [o.full]
    exact .inr (BuzOK_input o b)

theorem buzhash_is_window_function (n : Nat) (hn : 1 ≤ n) (hist : Bytes) (hlen : n ≤ hist.length) :
    (hist.foldl (fun h b => if h.full then h.input b else h.init b) (BuzHash.new n)).sum
      = buzOf (winAt n hist hist.length) := by
  have inv := foldl_fed (P := (BuzInv · n ·)) (fun b inv => BuzInv_step inv b) hist
    (.inl (BuzWarm_new n hn))
  rw [List.nil_append] at inv
  rw [winAt_of_le n hist _ hlen, List.take_of_length_le (by simp; omega), ← (inv.ok hlen).sum]

end Bita.Proofs
