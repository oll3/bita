/-
  Feeding chunks to the output: every fed chunk lands at all its placements, once.  What a feed
  does to the clone index needs no invariant (`feed_index`, `keys_feedAll`); one invariant
  (`FeedInv`) carries the clone index, the bytes in place and the write log; a plain clone starts
  it with no prior tiling (`O = []`), an in-place clone with `R = O` after the executor.
-/
import Bita.Proofs.ExecutorWrites

namespace Bita.Proofs.Exec
open Bita Bita.Spec

variable {κ : Type} [DecidableEq κ]

theorem feed_index (st : OutSt κ) (k : κ) (d : Bytes) : (st.feed k d).1.index = st.index.remove k := by
  unfold OutSt.feed
  cases hget : st.index.get k with
  | none =>
    symm
    exact List.filter_eq_self.2 fun e he => decide_eq_true fun hk =>
      (get_eq_none_iff st.index k).1 hget (List.mem_map.2 ⟨e, he, hk⟩)
  | some loc => exact writeOffsets_index d loc.offsets _

theorem keys_feedAll (c : κ → Bytes) (ks : List κ) (st : OutSt κ) (k' : κ) :
    k' ∈ (feedAll c st ks).index.keys ↔ k' ∈ st.index.keys ∧ k' ∉ ks := by
  induction ks generalizing st with
  | nil => exact ⟨fun h => ⟨h, List.not_mem_nil⟩, fun h => h.1⟩
  | cons k ks ih =>
    rw [feedAll, List.foldl_cons, ← feedAll, ih, feed_index, Index.remove,
      mem_keys_filter st.index (fun x => decide (x ≠ k))]
    simp [and_assoc]

theorem feedAll_append (c : κ → Bytes) (st : OutSt κ) (k1 k2 : List κ) :
    feedAll c st (k1 ++ k2) = feedAll c (feedAll c st k1) k2 :=
  List.foldl_append

omit [DecidableEq κ] in
theorem nodup_offsets (c : κ → Bytes) (ts : List κ) (hne : ∀ k ∈ ts, c k ≠ []) :
    ((placements c ts 0).map (·.2)).Nodup := by
  have := placements_sorted c ts 0 hne
  rw [List.Nodup, List.pairwise_map]
  exact this.imp (fun h => Nat.ne_of_lt h)

/-- An offset determines its chunk, so the destinations of different chunks differ. -/
theorem nodup_flatMap_dests (c : κ → Bytes) (N : List κ) (hN : ∀ k ∈ N, c k ≠ [])
    (PO : List (κ × Nat)) {ks : List κ} (h : ks.Nodup) :
    (ks.flatMap (dests PO (placements c N 0))).Nodup :=
  List.pairwise_flatMap.2 ⟨fun _ _ => (nodup_offsets c N hN).sublist (List.filter_sublist.map _),
    h.imp fun hk _ ha _ hb hab =>
      hk (placements_functional hN (mem_dests.1 ha).1 (hab ▸ (mem_dests.1 hb).1))⟩

section
variable (c : κ → Bytes) (O N : List κ)

/-- The output while chunks are fed: `R` are the keys dealt with, those of the prior tiling `O` and
every key fed so far, whether `N` has it or not; those of them that `N` has are in place (`held`).
The writes so far are, as for the executor, those of some distinct chunks `W` of `R` to their
target placements that `O` did not already hold. -/
structure FeedInv (st : OutSt κ) (R : List κ) : Prop where
  index : st.index = (indexOf c N).filter (fun e => !R.contains e.1)
  held : ∀ e ∈ placements c N 0, e.1 ∈ R → slice st.file e.2 (c e.1).length = c e.1
  prior : ∀ k ∈ O, k ∈ R
  wr : ∃ W : List κ, W.Nodup ∧ (∀ k ∈ W, k ∈ R) ∧ writesOf st.log = W.flatMap fun k =>
    (dests (placements c O 0) (placements c N 0) k).map fun d => (d, c k)

variable {c O N} {st : OutSt κ} {R : List κ} (hN : ∀ k ∈ N, c k ≠ [])
include hN

theorem FeedInv.mem_keys (h : FeedInv c O N st R) (k : κ) :
    k ∈ st.index.keys ↔ k ∈ N ∧ k ∉ R := by
  rw [h.index, mem_keys_filter (indexOf c N) (fun k => !R.contains k), keys_indexOf hN]
  simp

theorem feed_step (hinv : FeedInv c O N st R) (k : κ) :
    FeedInv c O N (st.feed k (c k)).1 (k :: R) := by
  have hix : (st.feed k (c k)).1.index = (indexOf c N).filter (fun e => !(k :: R).contains e.1) := by
    rw [feed_index, hinv.index]
    exact remove_filter_not_mem _ (by simp [or_comm])
  have hprior : ∀ k' ∈ O, k' ∈ k :: R := fun k' h => List.mem_cons_of_mem _ (hinv.prior k' h)
  obtain ⟨W, hnd, hWR, hW⟩ := hinv.wr
  by_cases hcase : k ∈ N ∧ k ∉ R
  · have hget : st.index.get k = some ⟨(c k).length, offs (placements c N 0) k⟩ := by
      rw [hinv.index, get_filter (indexOf c N) (fun k => !R.contains k) k,
        indexOf_get_of_mem hN hcase.1]
      exact if_pos (by simpa using hcase.2)
    simp only [OutSt.feed, hget] at hix ⊢
    refine ⟨hix, fun e he her => ?_, hprior, W ++ [k], ?_, ?_, ?_⟩
    · exact writeOffsets_tiling (fun d hd => mem_offs.1 hd) he <|
        (List.mem_cons.1 her).imp (fun h => ⟨h, mem_offs.2 (h ▸ he)⟩) (hinv.held e he)
    · exact List.nodup_append.2 ⟨hnd, List.pairwise_singleton _ _, fun a ha b hb hab =>
        hcase.2 (hWR k (List.mem_singleton.1 hb ▸ hab ▸ ha))⟩
    · exact List.forall_mem_append.2 ⟨fun k' h => List.mem_cons_of_mem _ (hWR k' h),
        fun k' h => List.mem_singleton.1 h ▸ List.mem_cons_self⟩
    · -- `k` is not in `O`, so all its placements are destinations
      rw [writeOffsets_writes, hW, List.flatMap_append, List.flatMap_singleton,
        dests_of_not_mem fun h => hcase.2 (hinv.prior k h)]
  · have hget : st.index.get k = none :=
      (get_eq_none_iff _ _).2 (mt (hinv.mem_keys hN k).1 hcase)
    simp only [OutSt.feed, hget] at hix ⊢
    refine ⟨hix, fun e he her => hinv.held e he ?_, hprior, W, hnd,
      fun k' h => List.mem_cons_of_mem _ (hWR k' h), hW⟩
    -- `e.1 = k` is impossible unless `k ∈ R` already: `k` has a placement in `N` and was not wanted
    rcases List.mem_cons.1 her with h | h
    · exact Classical.byContradiction fun hr =>
        hcase ⟨h ▸ (mem_placements he).2.2, h ▸ hr⟩
    · exact h

theorem feedAll_inv (ks : List κ) (h : FeedInv c O N st R) :
    FeedInv c O N (feedAll c st ks) (ks.reverse ++ R) := by
  induction ks generalizing st R with
  | nil => exact h
  | cons k ks ih => simpa [feedAll] using ih (feed_step hN h k)

theorem FeedInv.exact (h : FeedInv c O N st R) (ks : List κ) (hks : ∀ k ∈ st.index.keys, k ∈ ks) :
    resize (feedAll c st ks).file (fileOf c N).length = fileOf c N := by
  refine resize_of_placements c _ N fun e he => (feedAll_inv hN ks h).held e he ?_
  by_cases hR : e.1 ∈ R
  · exact List.mem_append_right _ hR
  · exact List.mem_append_left _ (List.mem_reverse.2
      (hks _ ((h.mem_keys hN _).2 ⟨(mem_placements he).2.2, hR⟩)))

/-- What the invariant says about the writes, in the form of C13. -/
theorem FeedInv.writes (h : FeedInv c O N st R) :
    (∀ w ∈ writesOf st.log, ∃ k, (k, w.1) ∈ placements c N 0 ∧ w.2 = c k) ∧
    ((writesOf st.log).map (·.1)).Nodup ∧
    (∀ w ∈ writesOf st.log, ∀ k, (k, w.1) ∈ placements c N 0 → (k, w.1) ∉ placements c O 0) ∧
    (∀ w ∈ writesOf st.log, w.1 + w.2.length ≤ (fileOf c N).length) := by
  obtain ⟨W, hnd, _, hW⟩ := h.wr
  have hw : ∀ w ∈ writesOf st.log,
      ∃ k, (k, w.1) ∈ placements c N 0 ∧ w.2 = c k ∧ (k, w.1) ∉ placements c O 0 := by
    intro w hw
    obtain ⟨k, _, hw⟩ := List.mem_flatMap.1 (hW ▸ hw)
    obtain ⟨d, hd, rfl⟩ := List.mem_map.1 hw
    exact ⟨k, (mem_dests.1 hd).1, rfl, (mem_dests.1 hd).2⟩
  refine ⟨fun w hm => let ⟨k, h1, h2, _⟩ := hw w hm; ⟨k, h1, h2⟩, ?_, fun w hm k hk => ?_,
    fun w hm => ?_⟩
  · rw [hW, List.map_flatMap]
    simp only [List.map_map, Function.comp_def, List.map_id']
    exact nodup_flatMap_dests c N hN _ hnd
  · obtain ⟨k', h1, _, h3⟩ := hw w hm
    rw [placements_functional hN hk h1]; exact h3
  · obtain ⟨k, h1, h2, _⟩ := hw w hm
    rw [h2]; simpa using (mem_placements h1).2.1

end

end Bita.Proofs.Exec
