/-
  `HttpReader::read_at` (`HttpRangeRequest::single`): one characterisation of the model
  `httpReadAt`, from which C08 and C15 take what they say about header reads.
-/
import Bita.Model.Readers

namespace Bita.Proofs
open Bita

/-- What `read_at` may answer to a read of `(offset, size)` with `retry` retries left. -/
def ReadAtOk (offset size retry : Nat) (o : Item × List (Nat × Nat)) : Prop :=
  (offset + size ≠ 0 → o.1 ≠ Item.panic) ∧ (∀ d, o.1 = Item.chunk d → d.length = size) ∧
    (∀ q ∈ o.2, q = (offset, size)) ∧ o.2.length ≤ retry + 1

theorem ReadAtOk.one {offset size : Nat} (retry : Nat) {it : Item} (h1 : it ≠ Item.panic)
    (h2 : ∀ d, it = Item.chunk d → d.length = size) :
    ReadAtOk offset size retry (it, [(offset, size)]) :=
  ⟨fun _ => h1, h2, fun _ => List.mem_singleton.1, Nat.le_add_left 1 retry⟩

theorem ReadAtOk.retry {offset size retry : Nat} {o : Item × List (Nat × Nat)}
    (h : retry ≠ 0 → ReadAtOk offset size (retry - 1) o) :
    ReadAtOk offset size retry
      (if retry = 0 then (Item.errHttp, [(offset, size)]) else (o.1, (offset, size) :: o.2)) := by
  split
  · exact .one retry nofun nofun
  · next h0 =>
    obtain ⟨i1, i2, i3, i4⟩ := h h0
    exact ⟨i1, i2, List.forall_mem_cons.2 ⟨rfl, i3⟩,
      Nat.succ_le_succ (Nat.sub_add_cancel (Nat.pos_of_ne_zero h0) ▸ i4)⟩

theorem ReadAtOk.done (offset size retry : Nat) (body : Bytes) :
    ReadAtOk offset size retry
      (if size ≤ body.length then Item.chunk (body.take size) else Item.errEnd, [(offset, size)]) := by
  split
  · next h => exact .one retry nofun fun d hd => by cases hd; exact List.length_take_of_le h
  · exact .one retry nofun nofun

theorem httpReadAt_spec (serve : Nat → Nat → Bytes) (offset size : Nat) (script : List Resp)
    (retry : Nat) : ReadAtOk offset size retry (httpReadAt serve retry offset size script) := by
  fun_induction httpReadAt serve retry offset size script with
  | case1 => exact ⟨nofun, nofun, nofun, Nat.zero_le _⟩                           -- `(stall, [])`
  | case2 _ _ _ hz => exact ⟨fun h => absurd hz h, nofun, nofun, Nat.zero_le _⟩  -- `(panic, [])`
  | case3 _ s _ _ ih => exact .retry (ih s)      -- refused
  | case4 => exact .done ..                      -- the full body
  | case5 _ s _ _ _ _ ih => exact .retry (ih s)  -- the body stream failed
  | case6 => exact .done ..                      -- the body ended early

end Bita.Proofs
