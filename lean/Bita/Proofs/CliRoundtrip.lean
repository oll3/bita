/-
  C01, the round trip: compress followed by clone of what it left, for the library (`roundtrip_opened`)
  and at the level of the command line and the file system (`cli_roundtrip_opened`), composed from
  `compress_leaves_only_archive` (CliFs), `createArchive_conforms` (Writer) and `clone_complete_nojunk`
  (CloneNoJunk).  In both the collision that may let the clone fail is one among the source's chunks
  under the hash length of the archive that opened; `C01.roundtrip` and `cli_roundtrip` state less (any
  archive).
-/
import Bita.Proofs.CliFs
import Bita.Proofs.Writer
import Bita.Proofs.CloneNoJunk

namespace Bita.Proofs
open Bita Bita.Proto Bita.Spec Bita.Gen

theorem compress_ok (H : Bytes → Bytes) (comp : Bytes → Bytes) {c : CompressCmd} {fs : Fs} {inode : Node}
    (hin : fs.get c.input = some inode) (hnew : fs.get c.output = none) (htmp : fs.get c.temp = none)
    -- the input is looked up after the output was opened
    (hto : c.temp ≠ c.output) (hio : c.input ≠ c.output) :
    (Cli.compress H comp c fs).ok = true := by
  rw [cli_compress_eq,
    fs_openOut_absent (compressFlags c.flags) hnew (by cases h : c.flags.force <;> simp [compressFlags, h])]
  dsimp only
  rw [fs_get_set, if_neg hio, hin]
  dsimp only
  rw [fs_openOut_absent tempFlags (by rw [fs_get_set, if_neg hto, htmp]) (.inl rfl)]

theorem cliCloneRun_regular {H : Bytes → Bytes} {decomp : Nat → Bytes → Nat → Option Bytes} {c : CloneCmd}
    {fs1 : Fs} {archive : Bytes} {a : Archive} {ops1 : List FsOp} {d : Bytes}
    (hseeds : ∀ p ∈ c.seedPaths, (fs1.get p).isSome) :
    cliCloneRun H decomp c fs1 archive a ops1 (.regular d) =
      cliCloneDone c fs1 ops1 false (Clone.run H decomp [] (honestReadAt archive) (honestReadChunks archive)
        (cliCloneOpts c false) d (cliSeeds c fs1)) := by
  have hany : cliSeedMissing c fs1 a (.regular d) = false := by
    rw [cliSeedMissing, List.any_eq_false.mpr fun p hp => by simp [Option.isSome_iff_ne_none.mp (hseeds p hp)], Bool.false_and]
  rw [cliCloneRun, hany, if_neg Bool.false_ne_true]
  rfl

theorem clone_conforming_fs (H : Bytes → Bytes) (hH : ∀ x, (H x).length = 64)
    (decomp : Nat → Bytes → Nat → Option Bytes) (kc : CloneCmd) (fs1 : Fs) (an : Node)
    (a : Archive) (src : Bytes) (cks : List Bytes)
    (harch : fs1.get kc.archivePath = some an)
    (hinit : tryInit H [] (honestReadAt an.data) = .ok a) (hd : Describes H a src cks)
    (hs : Stored H decomp a an.data) (hpin : kc.pin = none)
    (hout : fs1.get kc.output = none ∨
      ((kc.flags.force = true ∨ kc.flags.seedOutput = true) ∧ ∃ d, fs1.get kc.output = some (.regular d)))
    -- the output path may be a seed: it exists once opened
    (hseeds : ∀ p ∈ kc.seedPaths, (fs1.get p).isSome ∨ p = kc.output) :
    ((Cli.clone H decomp kc fs1).ok = true ∧
        (Cli.clone H decomp kc fs1).fs.get kc.output = some (.regular src)) ∨
      Collision H a.hashLength cks := by
  obtain ⟨fs2, d, ho, hget⟩ : ∃ fs2 d, fs1.openOut kc.output (cloneFlags kc.flags) = some fs2 ∧
      fs2.get kc.output = some (.regular d) := by
    rcases hout with hnone | ⟨hflag, d, hd'⟩
    · exact ⟨_, [], fs_openOut_absent _ hnone
        (by cases hf : kc.flags.force <;> cases hs : kc.flags.seedOutput <;> simp [cloneFlags, hf, hs]),
        by rw [fs_get_set, if_pos rfl]⟩
    · exact ⟨fs1, d, fs_openOut_present _ hd'
        (by rcases hflag with h | h <;> simp [cloneFlags, h]) rfl, hd'⟩
  rw [cli_clone_run harch hinit (by rw [hpin]; rfl) ho hget,
    cliCloneRun_regular fun p hp => fs_openOut_isSome ho (hseeds p hp)]
  refine (clone_complete_nojunk H hH decomp [] an.data (cliCloneOpts kc false) d (cliSeeds kc fs2)
    a src cks hinit hd hs (fun pin hp => nomatch hpin.symm.trans hp) nofun).imp_left fun ⟨hok, _, hsrc⟩ => ?_
  rw [cliCloneDone, fs_get_set, if_pos rfl, if_neg Bool.false_ne_true, hsrc rfl]
  exact ⟨decide_eq_true hok, rfl⟩

/-- The round trip of the library (`C01.roundtrip`) with the escape clause it is proved with: the
collision is among the chunks `cks` of the source, under the hash length of the archive `a` that opened. -/
theorem roundtrip_opened (H : Bytes → Bytes) (hH : ∀ x, (H x).length = 64)
    (writer : String) (hw : writer = "lib" ∨ writer = "cli")
    (comp : Bytes → Bytes) (decomp : Nat → Bytes → Nat → Option Bytes) (hcodec : CodecOK comp decomp)
    (hne : ∀ x, x ≠ [] → comp x ≠ [])
    (o : CompressOpts) (ho : OptsOK o) (src : Bytes)
    (hfit : (createArchive H writer comp o src).length < 2 ^ 63)
    (hsrc : src.length < 2 ^ 64) (hcnt : (chunkAll o.cfg src).length ≤ 2 ^ 32)
    (opts : CloneOpts) (prior : Bytes) (seeds : List Bytes) (hpin : opts.headerPin = none)
    (hdev : opts.blockDev = false) :
    let archive := createArchive H writer comp o src
    let r := Clone.run H decomp [] (honestReadAt archive) (honestReadChunks archive) opts prior seeds
    (r.result = .ok ∧ r.output = src) ∨
    (∃ c1 ∈ chunkAll o.cfg src, ∃ c2 ∈ chunkAll o.cfg src,
      slice src c1.1 c1.2 ≠ slice src c2.1 c2.2 ∧ H (slice src c1.1 c1.2) = H (slice src c2.1 c2.2)) ∨
    (∃ a cks, tryInit H [] (honestReadAt archive) = .ok a ∧ Describes H a src cks ∧
      Collision H a.hashLength cks) := by
  intro archive r
  rcases createArchive_conforms H hH writer hw comp decomp hcodec hne o ho src hfit hsrc hcnt with
    ⟨a, cks, hinit, hd, hs⟩ | hcol
  · rcases clone_complete_nojunk H hH decomp [] archive opts prior seeds a src cks hinit hd hs
      (fun _ hp => nomatch hpin.symm.trans hp) (fun h => nomatch hdev.symm.trans h) with ⟨hok, _, hout⟩ | hcoll
    · exact .inl ⟨hok, hout hdev⟩
    · exact .inr (.inr ⟨a, cks, hinit, hd, hcoll⟩)
  · exact .inr (.inl hcol)

/-- The round trip at the command line with the escape clause it is proved with (as in `roundtrip_opened`),
and without the hypotheses the composition does not use (`FactsAsExpected`, `cc.input ≠ cc.temp`). -/
theorem cli_roundtrip_opened (H : Bytes → Bytes) (hH : ∀ x, (H x).length = 64)
    (comp : Bytes → Bytes) (decomp : Nat → Bytes → Nat → Option Bytes) (hcodec : CodecOK comp decomp)
    (hne : ∀ x, x ≠ [] → comp x ≠ [])
    (cc : CompressCmd) (kc : CloneCmd) (fs : Fs) (inode : Node)
    (hflush : cliTempFlushedBeforeReturn = true)
    (ho : OptsOK cc.opts)
    (hin : fs.get cc.input = some inode)
    (hnew : fs.get cc.output = none) (htmp : fs.get cc.temp = none)
    (hto : cc.temp ≠ cc.output) (hio : cc.input ≠ cc.output)
    (hfit : (createArchive H "cli" comp cc.opts inode.data).length < 2 ^ 63)
    (hsrc : inode.data.length < 2 ^ 64) (hcnt : (chunkAll cc.opts.cfg inode.data).length ≤ 2 ^ 32)
    (harch : kc.archivePath = cc.output) (hko : kc.output ≠ cc.output)
    (hout : fs.get kc.output = none ∨
      ((kc.flags.force = true ∨ kc.flags.seedOutput = true) ∧ ∃ d, fs.get kc.output = some (.regular d)))
    (hpin : kc.pin = none)
    (hseeds : ∀ p ∈ kc.seedPaths, (fs.get p).isSome ∨ p = cc.output) :
    let archive := createArchive H "cli" comp cc.opts inode.data
    let r1 := Cli.compress H comp cc fs
    let r2 := Cli.clone H decomp kc r1.fs
    r1.ok = true ∧
    ((r2.ok = true ∧ r2.fs.get kc.output = some (.regular inode.data) ∧
        (∀ p, p ≠ kc.output → p ≠ cc.output → r2.fs.get p = fs.get p)) ∨
      (∃ c1 ∈ chunkAll cc.opts.cfg inode.data, ∃ c2 ∈ chunkAll cc.opts.cfg inode.data,
        slice inode.data c1.1 c1.2 ≠ slice inode.data c2.1 c2.2 ∧
        H (slice inode.data c1.1 c1.2) = H (slice inode.data c2.1 c2.2)) ∨
      (∃ a cks, tryInit H [] (honestReadAt archive) = .ok a ∧ Describes H a inode.data cks ∧
        Collision H a.hashLength cks)) := by
  intro archive r1 r2
  have hok1 : r1.ok = true := compress_ok H comp hin hnew htmp hto hio
  obtain ⟨hframe, src, hdata, harchive⟩ := compress_leaves_only_archive H comp cc fs htmp
    ⟨hto, hio, fun e => nomatch hin.symm.trans (e ▸ htmp : fs.get cc.input = none)⟩ hflush hok1
  rw [hin] at hdata
  cases hdata
  refine ⟨hok1, ?_⟩
  rcases createArchive_conforms H hH "cli" (.inr rfl) comp decomp hcodec hne cc.opts ho inode.data
    hfit hsrc hcnt with ⟨a, cks, hinit, hd, hs⟩ | hcol
  · -- what the clone needs of the file system holds after the compress as it held before
    rcases clone_conforming_fs H hH decomp kc r1.fs (.regular archive) a inode.data cks
      (by rw [harch]; exact harchive) hinit hd hs hpin
      (by rw [hframe _ hko]; exact hout)
      (fun p hp => .inl <| by
        by_cases hpa : p = cc.output
        · rw [hpa, harchive]; rfl
        · rw [hframe p hpa]; exact (hseeds p hp).resolve_right hpa) with ⟨hok2, hget2⟩ | hcoll
    · refine .inl ⟨hok2, hget2, fun p hp1 hp2 => ?_⟩
      show (Cli.clone H decomp kc r1.fs).fs.get p = fs.get p
      rw [clone_fs_confined H decomp kc r1.fs p hp1, hframe p hp2]
    · exact .inr (.inr ⟨a, cks, hinit, hd, hcoll⟩)
  · exact .inr (.inl hcol)

/-- **CLI round trip.**  In any file system where the input exists, the archive and temp paths do
not, and the clone's output does not exist (or is a regular file and `--force-create` /
`--seed-output` is given): `compress` succeeds; `clone` of the archive it left - with any seed
files that exist, any of the clone options - succeeds, leaves exactly the source in the output
and changes no other path; or a hash collision among the chunks of the source is exhibited
(chunks of a prior output that collide with no source chunk are irrelevant). -/
theorem cli_roundtrip (H : Bytes → Bytes) (hH : ∀ x, (H x).length = 64)
    (comp : Bytes → Bytes) (decomp : Nat → Bytes → Nat → Option Bytes) (hcodec : CodecOK comp decomp)
    (hne : ∀ x, x ≠ [] → comp x ≠ [])
    (cc : CompressCmd) (kc : CloneCmd) (fs : Fs) (inode : Node)
    (hfacts : FactsAsExpected) (hflush : cliTempFlushedBeforeReturn = true)
    (ho : OptsOK cc.opts)
    (hin : fs.get cc.input = some inode)
    (hnew : fs.get cc.output = none) (htmp : fs.get cc.temp = none)
    (hdistinct : cc.temp ≠ cc.output ∧ cc.input ≠ cc.output ∧ cc.input ≠ cc.temp)
    (hfit : (createArchive H "cli" comp cc.opts inode.data).length < 2 ^ 63)
    (hsrc : inode.data.length < 2 ^ 64) (hcnt : (chunkAll cc.opts.cfg inode.data).length ≤ 2 ^ 32)
    (harch : kc.archivePath = cc.output) (hko : kc.output ≠ cc.output)
    (hout : fs.get kc.output = none ∨
      ((kc.flags.force = true ∨ kc.flags.seedOutput = true) ∧ ∃ d, fs.get kc.output = some (.regular d)))
    (hpin : kc.pin = none)
    (hseeds : ∀ p ∈ kc.seedPaths, (fs.get p).isSome ∨ p = cc.output) :
    let r1 := Cli.compress H comp cc fs
    let r2 := Cli.clone H decomp kc r1.fs
    r1.ok = true ∧
    ((r2.ok = true ∧ r2.fs.get kc.output = some (.regular inode.data) ∧
        (∀ p, p ≠ kc.output → p ≠ cc.output → r2.fs.get p = fs.get p)) ∨
      (∃ c1 ∈ chunkAll cc.opts.cfg inode.data, ∃ c2 ∈ chunkAll cc.opts.cfg inode.data,
        slice inode.data c1.1 c1.2 ≠ slice inode.data c2.1 c2.2 ∧
        H (slice inode.data c1.1 c1.2) = H (slice inode.data c2.1 c2.2)) ∨
      (∃ (a : Archive) (cks : List Bytes), Collision H a.hashLength cks ∧ inode.data = cks.flatten)) := by
  intro r1 r2
  have _ := hfacts  -- the facts read from the source fix the subject (step order, open calls); not needed here
  exact (cli_roundtrip_opened H hH comp decomp hcodec hne cc kc fs inode hflush ho hin hnew htmp
    hdistinct.1 hdistinct.2.1 hfit hsrc hcnt harch hko hout hpin hseeds).imp_right
    (.imp_right (.imp_right fun ⟨a, cks, _, hd, hcoll⟩ => ⟨a, cks, hcoll, hd.tiles⟩))

end Bita.Proofs
