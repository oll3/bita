/-
  `CR.drain` and `CR.feed` inside a run, for any bytes.  Inside a run: a request is open, the
  adjacency counter is the number of the run's chunks still to come, bytes buffered + bytes still
  requested = bytes of the run, and the buffer is short of the next chunk.  `HttpResume` (honest
  server) and `HttpSafe` (any server) both rest on `drain_run` and `feed_eq_drain`.
-/
import Bita.Model.Readers
import Bita.Proofs.HttpLemmas

namespace Bita.Proofs
open Bita Bita.Spec

/-- The chunks cut off the front of a buffer, in order. -/
def pieces : List ChunkOffset → Bytes → List Item
  | [], _ => []
  | c :: cs, b => Item.chunk (b.take c.size) :: pieces cs (b.drop c.size)

theorem pieces_no_panic (cs : List ChunkOffset) (b : Bytes) : Item.panic ∉ pieces cs b := by
  induction cs generalizing b with
  | nil => simp [pieces]
  | cons c cs ih => simp [pieces, ih]

/-- Where `n` bytes reach in a run: they cover the chunks `done` and `m` bytes of the next, short of
all of it. -/
theorem exists_fit (n : Nat) (run : List ChunkOffset) :
    ∃ done rem m, run = done ++ rem ∧ n = total done + m ∧ ∀ c ∈ rem.head?, m < c.size := by
  induction run generalizing n with
  | nil => exact ⟨[], [], n, rfl, (Nat.zero_add n).symm, nofun⟩
  | cons c r ih =>
    by_cases hc : c.size ≤ n
    · obtain ⟨done, rem, m, h1, h2, h3⟩ := ih (n - c.size)
      refine ⟨c :: done, rem, m, by rw [h1, List.cons_append], ?_, h3⟩
      rw [total, Nat.add_assoc, ← h2, Nat.add_sub_cancel' hc]
    · exact ⟨[], c :: r, n, rfl, (Nat.zero_add n).symm, fun c' hc' => by cases hc'; omega⟩

variable {c : ChunkOffset} {cs r rest : List ChunkOffset} {buf : Bytes} {size : Nat}

theorem missing_pos {m : Nat} (hb : m + size = total (c :: r)) (hc : m < c.size) : 0 < size := by
  rw [total] at hb
  omega

theorem balance_append {b : Bytes} {t : Nat} (hb : buf.length + size = t)
    (hbl : b.length ≤ size) : (buf ++ b).length + (size - b.length) = t := by
  rw [List.length_append, Nat.add_assoc, Nat.add_sub_cancel' hbl, hb]

theorem drain_short {adj : Nat} {req : Option (Nat × Nat × Nat)} (hbuf : buf.length < c.size) :
    CR.drain (c :: cs) buf adj req = ([], ⟨c :: cs, buf, adj, req⟩, false) := by
  rw [CR.drain, if_neg (by omega)]

theorem drain_nil_buf (hrest : ∀ c ∈ rest.head?, 1 ≤ c.size) (adj : Nat)
    (req : Option (Nat × Nat × Nat)) :
    CR.drain rest [] adj req = ([], ⟨rest, [], adj, req⟩, false) := by
  cases rest with
  | nil => rfl
  | cons c cs => exact drain_short (hrest c rfl)

/-- What `drain` hands out of `buf` does not depend on the bytes `g` behind it (`feed_eq_drain` takes
the later fragments for `g`). -/
theorem drain_prefix {k : Nat} (g : Bytes) :
    ∀ {done : List ChunkOffset} {buf : Bytes} {req : Option (Nat × Nat × Nat)},
      total done ≤ buf.length →
      CR.drain (done ++ cs) (buf ++ g) (done.length + k) req =
        Prod.map (pieces done buf ++ ·) id (CR.drain cs (buf.drop (total done) ++ g) k
          (if k = 0 ∧ done ≠ [] then none else req)) := by
  intro done
  induction done with
  | nil => intro buf req _; simp [pieces, total, Prod.map]
  | cons c d ih =>
    intro buf req hb
    simp only [total] at hb
    have hc : c.size ≤ buf.length := Nat.le_trans (Nat.le_add_right _ _) hb
    rw [List.cons_append, CR.drain,
      if_pos (Nat.le_trans hc (List.length_append ▸ Nat.le_add_right _ _)), if_neg (by simp)]
    simp only [List.length_cons, Nat.add_right_comm _ 1 k, Nat.add_sub_cancel]
    rw [List.take_append_of_le_length hc, List.drop_append_of_le_length hc,
      ih (List.length_drop ▸ Nat.le_sub_of_add_le' hb)]
    -- the counter reaches 0 at this chunk only if it is the last and nothing is left
    have hreq : (if k = 0 ∧ d ≠ [] then none else if d.length + k = 0 then none else req) =
        (if k = 0 ∧ c :: d ≠ [] then none else req) := by
      cases k <;> cases d <;> simp
    rw [hreq]
    simp [pieces, total, List.drop_drop, Prod.map]

/-- `drain` stops in front of the first chunk the buffer does not cover; the last two conjuncts are
the invariant again, for `rem`. -/
theorem drain_run (hrest : ∀ c ∈ rest.head?, 1 ≤ c.size) (q : Nat × Nat × Nat)
    {run : List ChunkOffset} (hne : run ≠ [])
    (hb : buf.length + size = total run) :
    ∃ done rem, run = done ++ rem ∧
      CR.drain (run ++ rest) buf run.length (some q) =
        (pieces done buf,
          ⟨rem ++ rest, buf.drop (total done), rem.length, if rem = [] then none else some q⟩,
          false) ∧
      total done ≤ buf.length ∧ (buf.drop (total done)).length + size = total rem ∧
      ∀ c ∈ rem.head?, (buf.drop (total done)).length < c.size := by
  obtain ⟨done, rem, m, hsplit, hm, hrem⟩ := exists_fit buf.length run
  have hd : total done ≤ buf.length := hm ▸ Nat.le_add_right _ _
  have hlen : (buf.drop (total done)).length = m := by
    rw [List.length_drop, hm, Nat.add_sub_cancel_left]
  subst hsplit
  rw [total_append, hm, Nat.add_assoc] at hb
  have hinv : m + size = total rem := Nat.add_left_cancel hb
  refine ⟨done, rem, rfl, ?_, hd, hlen ▸ hinv, hlen ▸ hrem⟩
  have hpre := drain_prefix [] (cs := rem ++ rest) (k := rem.length) (req := some q) hd
  simp only [List.append_nil] at hpre
  rw [List.append_assoc, List.length_append, hpre]
  cases rem with
  | nil =>
    rw [List.append_nil] at hne
    rw [List.eq_nil_of_length_eq_zero (hlen.trans (Nat.add_eq_zero_iff.1 hinv).1),
      if_pos ⟨rfl, hne⟩, List.nil_append, drain_nil_buf hrest]
    simp
  | cons c' r' =>
    rw [if_neg (by simp), List.cons_append, drain_short (hlen ▸ hrem c' rfl)]
    simp

/-- A body frame is cut back to what is still requested, *because* the truncation is in the
source (`Gen.httpFragmentClipped`, F8.h repair). -/
theorem clipFrag_eq_take (size : Nat) (f : Bytes) : clipFrag size f = f.take size := by
  unfold clipFrag
  have hfact : Gen.httpFragmentClipped = true := by decide
  split
  · rfl
  · rename_i h
    exact (List.take_of_length_le (Nat.le_of_not_lt fun hlt => h ⟨hfact, hlt⟩)).symm

theorem take_append_take {α : Type} (n : Nat) (a b : List α) :
    (a ++ b).take n = a.take n ++ b.take (n - (a.take n).length) := by
  rw [List.take_append, List.length_take, ← Nat.sub_eq_sub_min]

/-- How `feed` reads the outcome of a `drain`. -/
def feedOf (d : List Item × CR × Bool) : FeedRes :=
  if d.2.2 then .stop d.1 else
    match d.2.1.req with
    | none => .runDone d.1 d.2.1
    | some _ => .bodyDone d.1 d.2.1

/-- **Fragmentation is irrelevant**: feeding a body in any fragments does what one `drain` does once
all of the body that was asked for is in the buffer. -/
theorem feed_eq_drain (hrest : ∀ c ∈ rest.head?, 1 ≤ c.size) :
    ∀ {fs : List Bytes} {c : ChunkOffset} {r : List ChunkOffset} {buf : Bytes} {off size rl : Nat},
      buf.length + size = total (c :: r) → buf.length < c.size →
      CR.feed fs ⟨c :: r ++ rest, buf, (c :: r).length, some (off, size, rl)⟩ =
        feedOf (CR.drain (c :: r ++ rest) (buf ++ fs.flatten.take size) (c :: r).length
          (some (off + (fs.flatten.take size).length, size - (fs.flatten.take size).length, rl))) := by
  intro fs
  induction fs with
  | nil =>
    intro c r buf off size rl _ hc
    simp [CR.feed, feedOf, drain_short hc]
  | cons f fs ih =>
    intro c r buf off size rl hb hc
    obtain ⟨done, rem, hsplit, hdr, hd, hinv, hshort⟩ := drain_run hrest
      (off + (f.take size).length, size - (f.take size).length, rl) (List.cons_ne_nil c r)
      (balance_append hb (List.length_take_le _ _))
    rw [hsplit, List.append_assoc, List.length_append] at hdr ⊢
    -- the body is this fragment, cut back, and `g` of the others; `drain` with `g` behind the
    -- buffer hands out `done` as it does without and goes on in the state it stopped in
    rw [List.flatten_cons, take_append_take, List.length_append, ← Nat.add_assoc, ← Nat.sub_sub,
      ← List.append_assoc buf, drain_prefix _ hd, CR.feed]
    simp only [clipFrag_eq_take, hdr]
    cases rem with
    | nil =>
      -- the run is complete: nothing more is requested, `g = []`
      obtain ⟨hbuf, hsize⟩ := Nat.add_eq_zero_iff.1 hinv
      obtain rfl := hsplit.trans (List.append_nil done)
      rw [hsize, List.take_zero, List.eq_nil_of_length_eq_zero hbuf]
      simp [feedOf, drain_nil_buf hrest]
    | cons c' r' =>
      simp only [List.length_eq_zero_iff, List.cons_ne_nil, false_and, if_false]
      rw [ih hinv (hshort c' rfl)]
      generalize CR.drain _ _ _ _ = d
      obtain ⟨its2, st2, p⟩ := d
      cases p <;> cases hq : st2.req <;> simp [feedOf, hq]

end Bita.Proofs
