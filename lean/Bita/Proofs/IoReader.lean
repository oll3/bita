/-
  The local chunk reader (C08): `ioFill` characterised outcome by outcome (`ioFill_spec`), and from
  it the stream of `ioReadChunks` as an exact prefix plus at most one error.
-/
import Bita.Model.Readers
import Bita.Spec.Resume
import Bita.Proofs.Slice

namespace Bita.Proofs
open Bita Bita.Spec

/-- One read of `ioFill`: what `ioFill_spec` needs of the longer buffer to go on, to report
`UnexpectedEof`, to finish.  `got` is free (`hgot`) to fit the `let` in `fun_induction`'s cases. -/
theorem ioFill_read {file : Bytes} {pos need : Nat} {acc : Bytes}
    (hacc : acc = slice file pos acc.length) (hlt : acc.length < need) (n : Nat) {got : Bytes}
    (hgot : slice file (pos + acc.length) (min n (need - acc.length)) = got) :
    acc ++ got = slice file pos (acc ++ got).length ∧
      (got = [] → file.length < pos + need ∨ n = 0) ∧
      (need ≤ (acc ++ got).length → acc ++ got = slice file pos need ∧ pos + need ≤ file.length) := by
  have hm : acc.length + min n (need - acc.length) ≤ need :=
    Nat.add_le_of_le_sub' (Nat.le_of_lt hlt) (Nat.min_le_right _ _)
  have h : acc ++ got = slice file pos (acc.length + min n (need - acc.length)) := by
    rw [← hgot, ← slice_append, ← hacc]
  have hl := congrArg List.length h
  rw [length_slice] at hl
  refine ⟨by rw [h, slice_length_self], fun h0 => ?_, fun hge => ?_⟩
  · have h0' := congrArg List.length (hgot.trans h0)
    rw [length_slice, List.length_nil, Nat.min_eq_zero_iff, Nat.min_eq_zero_iff] at h0'
    -- nothing left of the file, or nothing asked for (`n = 0`, since `acc.length < need`)
    exact h0'.symm.imp (fun hf => Nat.lt_of_le_of_lt (Nat.sub_eq_zero_iff_le.1 hf)
      (Nat.add_lt_add_left hlt pos)) (·.resolve_right (Nat.sub_ne_zero_of_lt hlt))
  · rw [hl, Nat.le_min] at hge
    exact ⟨Nat.le_antisymm hm hge.1 ▸ h, Nat.add_le_of_le_sub'
      (Nat.le_of_lt (Nat.lt_of_sub_pos (Nat.lt_of_lt_of_le (Nat.zero_lt_of_lt hlt) hge.2))) hge.2⟩

/-- Stated at a suffix `script` of the script `all` that `ioFill` was started on: the causes of a
failure lie anywhere in `all`, so the recursion hands them on unchanged.  A read that is consumed
delivers at least one byte (an empty one is `UnexpectedEof`), so the reads consumed number at most
the bytes held (`hreads`) and filling costs at most one read per missing byte. -/
theorem ioFill_spec (file : Bytes) (pos need : Nat) (acc : Bytes) {script all : List ReadEv}
    (hall : script <:+ all) (hacc : acc = slice file pos acc.length) (hlt : acc.length < need)
    (hreads : (all.filter (· ≠ ReadEv.pending)).length ≤
      acc.length + (script.filter (· ≠ ReadEv.pending)).length) :
    match ioFill file pos need acc script with
    | .ok data rest => data = slice file pos need ∧ rest <:+ all ∧ pos + need ≤ file.length ∧
        (all.filter (· ≠ ReadEv.pending)).length ≤ need + (rest.filter (· ≠ ReadEv.pending)).length
    | .fail it => (it = Item.stall ∧ (all.filter (· ≠ ReadEv.pending)).length < need) ∨
        (it = Item.errEof ∧ (file.length < pos + need ∨ ReadEv.bytes 0 ∈ all)) ∨
        (it = Item.errIo ∧ ReadEv.err ∈ all) := by
  -- a read consumed (the reads of `.bytes n :: s` compute to those of `s` and one) against a byte
  have hspent : ∀ {a b r : Nat}, a < b → a + (r + 1) ≤ b + r := fun h => by omega
  fun_induction ioFill file pos need acc script with
  | case1 => exact .inl ⟨rfl, Nat.lt_of_le_of_lt hreads hlt⟩
  | case2 acc s ih =>
    -- re-entered in the same state, and `Pending` is not a read
    exact ih ((List.suffix_cons _ s).trans hall) hacc hlt hreads
  | case3 => exact .inr (.inr ⟨rfl, hall.subset (List.mem_cons_self ..)⟩)
  | case4 acc n s got h0 =>
    exact .inr (.inl ⟨rfl, ((ioFill_read hacc hlt n rfl).2.1 (List.isEmpty_iff.1 h0)).imp_right
      fun (hn : n = 0) => hall.subset (hn ▸ List.mem_cons_self ..)⟩)
  | case5 acc n s got _ acc' hdone =>
    obtain ⟨h1, h2⟩ := (ioFill_read hacc hlt n (got := got) rfl).2.2 hdone
    exact ⟨h1, (List.suffix_cons _ s).trans hall, h2, Nat.le_trans hreads (hspent hlt)⟩
  | case6 acc n s got h0 acc' hnot ih =>
    -- one read spent, at least one byte gained
    have hgain : acc.length < acc'.length :=
      List.length_append ▸ Nat.lt_add_of_pos_right (List.length_pos_iff.2 (mt List.isEmpty_iff.2 h0))
    exact ih ((List.suffix_cons _ s).trans hall) (ioFill_read hacc hlt n rfl).1
      (Nat.lt_of_not_ge hnot) (Nat.le_trans hreads (hspent hgain))

theorem ioFill_sound (file : Bytes) (pos : Nat) {need : Nat} (hneed : 0 < need)
    (script : List ReadEv) :
    match ioFill file pos need [] script with
    | .ok data _ => data = slice file pos need ∧ pos + need ≤ file.length
    | .fail it => it = Item.stall ∨ it = Item.errEof ∨ it = Item.errIo := by
  have h := ioFill_spec file pos need [] (List.suffix_refl script) (slice_zero file pos).symm hneed
    (Nat.le_add_left ..)
  generalize ioFill file pos need [] script = res at h ⊢
  cases res with
  | ok => exact ⟨h.1, h.2.2.1⟩
  | fail => exact h.imp And.left (.imp And.left And.left)

theorem io_reader_sound (file : Bytes) (chunks : List ChunkOffset) (buf0 : Bytes)
    (script : List ReadEv) (hsize : ∀ c ∈ chunks, 1 ≤ c.size) :
    ∃ k tail, k ≤ chunks.length ∧
      ioReadChunks file chunks buf0 script = (chunks.take k).map (exactItem file) ++ tail ∧
      (∀ c ∈ chunks.take k, c.stop ≤ file.length) ∧
      ((tail = [] ∧ k = chunks.length) ∨ tail = [Item.stall] ∨ tail = [Item.errEof] ∨
        tail = [Item.errIo]) := by
  fun_induction ioReadChunks file chunks buf0 script with
  | case1 => exact ⟨0, [], Nat.le_refl _, rfl, nofun, .inl ⟨rfl, rfl⟩⟩
  | case2 c _ _ _ h0 => exact absurd h0 (Nat.ne_of_gt (hsize c (List.mem_cons_self ..)))
  | case3 c cs _ script _ data rest hfill ih =>
    -- the chunk is delivered, exactly, from a file that holds it
    have h := ioFill_sound file c.offset (hsize c (List.mem_cons_self ..)) script
    rw [hfill] at h
    obtain ⟨rfl, hle⟩ := h
    obtain ⟨k, tail, hk, heq, hall, htail⟩ := ih fun d hd => hsize d (List.mem_cons_of_mem _ hd)
    exact ⟨k + 1, tail, Nat.succ_le_succ hk, congrArg (_ :: ·) heq,
      List.forall_mem_cons.2 ⟨hle, hall⟩, htail.imp_left (And.imp_right (congrArg (· + 1)))⟩
  | case4 c _ _ script _ it hfill =>
    have h := ioFill_sound file c.offset (hsize c (List.mem_cons_self ..)) script
    rw [hfill] at h
    exact ⟨0, [it], Nat.zero_le _, rfl, nofun, .inr (by simpa using h)⟩

theorem ioFill_complete (file : Bytes) (pos : Nat) {need : Nat} (hneed : 0 < need)
    (hin : pos + need ≤ file.length) (script : List ReadEv)
    (hok : ∀ e ∈ script, e = ReadEv.pending ∨ ∃ n, 1 ≤ n ∧ e = ReadEv.bytes n)
    (hcnt : need ≤ (script.filter (· ≠ ReadEv.pending)).length) :
    ∃ rest, ioFill file pos need [] script = .ok (slice file pos need) rest ∧
      (∀ e ∈ rest, e ∈ script) ∧
      (script.filter (· ≠ ReadEv.pending)).length ≤
        (rest.filter (· ≠ ReadEv.pending)).length + need := by
  have h := ioFill_spec file pos need [] (List.suffix_refl script) (slice_zero file pos).symm hneed
    (Nat.le_add_left ..)
  generalize ioFill file pos need [] script = res at h ⊢
  cases res with
  | ok data rest => exact ⟨rest, h.1 ▸ rfl, fun _ he => h.2.1.subset he, Nat.add_comm .. ▸ h.2.2.2⟩
  | fail it =>
    rcases h with ⟨_, h⟩ | ⟨_, h | h⟩ | ⟨_, h⟩
    · exact absurd hcnt (Nat.not_le_of_lt h)
    · exact absurd hin (Nat.not_le_of_lt h)
    · rcases hok _ h with h | ⟨n, hn, h⟩ <;> cases h; exact absurd hn (Nat.not_succ_le_zero 0)
    · rcases hok _ h with h | ⟨n, _, h⟩ <;> cases h

theorem io_reader_complete (file : Bytes) (chunks : List ChunkOffset) (buf0 : Bytes)
    (script : List ReadEv) (hsize : ∀ c ∈ chunks, 1 ≤ c.size)
    (hin : ∀ c ∈ chunks, c.stop ≤ file.length)
    (hok : ∀ e ∈ script, e = ReadEv.pending ∨ ∃ n, 1 ≤ n ∧ e = ReadEv.bytes n)
    (hlen : (chunks.map (·.size)).sum ≤ (script.filter (· ≠ ReadEv.pending)).length) :
    ioReadChunks file chunks buf0 script = chunks.map (exactItem file) := by
  induction chunks generalizing buf0 script with
  | nil => simp [ioReadChunks]
  | cons c cs ih =>
    have hc : 1 ≤ c.size := hsize c (by simp)
    have hcs : ∀ c ∈ cs, 1 ≤ c.size := fun d hd => hsize d (by simp [hd])
    have hne : c.size ≠ 0 := by omega
    have hinc : c.offset + c.size ≤ file.length := hin c (by simp)
    simp only [List.map_cons, List.sum_cons] at hlen
    obtain ⟨rest, h1, h2, h3⟩ := ioFill_complete file c.offset hc hinc script hok (by omega)
    have := ih (slice file c.offset c.size) rest hcs (fun d hd => hin d (by simp [hd]))
      (fun e he => hok e (h2 e he)) (by omega)
    simp [ioReadChunks, hne, h1, this, exactItem]

end Bita.Proofs
