/-
  What follows from the characterisation of `tryInit` (`TryInitLemmas`): opening is total under the
  reader contract and an accepted archive is safe to use (C15 T1/T2); the header checksum binds the
  header region (C04 T2); what `buildHeader` wrote is reported verbatim (C11 T4).
-/
import Bita.Model.Clone
import Bita.Proofs.ProtoRoundtrip
import Bita.Proofs.TryInitLemmas

namespace Bita.Proofs
open Bita Bita.Proto Bita.Spec

/-- The reader contract: `read_at(off, size)` yields exactly `size` bytes, or an error. -/
def ExactReader (read : Nat → Nat → Option Bytes) : Prop :=
  ∀ off size b, read off size = some b → b.length = size

/-- C15 T1: for every reader behaviour within the contract - hence for every byte string behind an
honest reader and every server answer behind the HTTP reader - opening ends in success or a
reported error: no panic branch, no abort branch of the model is reachable. -/
theorem tryInit_total (H : Bytes → Bytes) (features : List Nat) (read : Nat → Nat → Option Bytes)
    (hr : ExactReader read) :
    (∃ a, tryInit H features read = .ok a) ∨ (∃ w, tryInit H features read = .invalid w) ∨
      tryInit H features read = .readerErr := by
  have hps : Gen.preHeaderSize = 14 := rfl
  have e := tryInit_ends H features read
  generalize tryInit H features read = out at e ⊢
  cases e with
  | ok w => exact .inl ⟨_, rfl⟩
  | invalid w => exact .inr (.inl ⟨w, rfl⟩)
  | readerErr => exact .inr (.inr rfl)
  | shortPre s hpre hlt =>
    have := hr _ _ _ hpre
    omega
  | shortHeader s hpre hrest hlt =>
    have h1 := hr _ _ _ hpre
    have h2 := hr _ _ _ hrest
    rw [List.length_append] at hlt
    omega

section
variable {H : Bytes → Bytes} {features : List Nat} {read : Nat → Nat → Option Bytes} {a : Archive}

/-- Everything later code relies on.  The header holds at least the pre-header, the offset field
and the checksum. -/
theorem tryInit_ok_facts (h : tryInit H features read = .ok a) :
    configAccepted a.config = true ∧
    (∀ i ∈ a.sourceOrder, i < a.chunks.length) ∧
    (∀ d ∈ a.chunks, 1 ≤ d.archiveSize ∧ d.archiveOffset + d.archiveSize ≤ usizeMax ∧ d.checksum.length ≤ 64) ∧
    Gen.preHeaderSize + 72 ≤ a.headerSize ∧
    (1 ≤ a.hashLength ∧ a.hashLength ≤ 64) ∧
    (a.sourceOrder.map fun i => ((a.chunks[i]?).map (·.sourceSize)).getD 0).sum = a.sourceTotalSize := by
  obtain ⟨pre, rest, dict, params, cc, compr, cfg, w, rfl⟩ := tryInit_ok_inv h
  have hhl := w.hhl
  refine ⟨configFromParams_ok w.hcfg, ?_, ?_, ?_, w.hhash, w.hsum⟩
  · intro i hi
    simpa [tiArchive] using w.hord i hi
  · intro d hd
    obtain ⟨cd, hcd, rfl⟩ := List.mem_map.mp hd
    exact ⟨Nat.pos_of_ne_zero (w.hsz cd hcd), w.hoff cd hcd, hashTruncate_length_le _ _⟩
  · show _ ≤ (pre ++ rest).length
    omega

theorem sourceChunks_some {a : Archive} (h : ∀ i ∈ a.sourceOrder, i < a.chunks.length) :
    ∃ cs, a.sourceChunks = some cs := by
  unfold Archive.sourceChunks
  generalize (([], 0) : List (Nat × Descr) × Nat) = acc
  generalize a.sourceOrder = order at h ⊢
  induction order generalizing acc with
  | nil => exact ⟨_, rfl⟩
  | cons i is ih =>
    simp only [List.foldlM_cons, List.getElem?_eq_getElem (h i (List.mem_cons_self ..))]
    exact ih _ fun j hj => h j (List.mem_cons_of_mem _ hj)

/-- C15 T2 (banner, index): on an accepted archive the arithmetic of `print_archive` and the
construction of the source index reach no panic branch. -/
theorem accepted_banner_safe (h : tryInit H features read = .ok a) :
    (∃ r, a.banner = .ok r) ∧ (∃ cs, a.sourceChunks = some cs) ∧ (∃ ix, a.sourceIndex = some ix) := by
  obtain ⟨hcfg, hord, -⟩ := tryInit_ok_facts h
  have hsc := sourceChunks_some hord
  refine ⟨?_, hsc, ?_⟩
  · unfold Archive.banner
    cases hc : a.config with
    | fixed n => exact ⟨_, rfl⟩
    | buzhash f | rollsum f =>
      -- `1 ≤ bits ≤ 30` keeps the three shifts in range
      rw [hc] at hcfg
      obtain ⟨-, -, -, h1, h30⟩ := of_decide_eq_true hcfg
      dsimp only
      rw [if_neg (by omega), if_neg (by omega), if_neg (by omega)]
      exact ⟨_, rfl⟩
  · obtain ⟨cs, hcs⟩ := hsc
    unfold Archive.sourceIndex
    rw [hcs]
    exact ⟨_, rfl⟩

theorem honestReadAt_some {bytes : Bytes} {off size : Nat} {b : Bytes}
    (h : honestReadAt bytes off size = some b) :
    off + size ≤ bytes.length ∧ b = (bytes.drop off).take size :=
  (Option.ite_none_right_eq_some.mp h).imp_right fun hb => (Option.some.inj hb).symm

theorem honestReadAt_append {a b : Bytes} {off size : Nat} (ha : a.length = off) (hb : b.length = size)
    (c : Bytes) : honestReadAt (a ++ (b ++ c)) off size = some b := by
  subst ha hb
  unfold honestReadAt slice
  rw [if_pos (by simp), List.drop_left, List.take_left]

theorem tiOk_honest {H : Bytes → Bytes} {features : List Nat} {bytes : Bytes}
    {pre rest dict params cc compr cfg}
    (w : TiOk H features (honestReadAt bytes) pre rest dict params cc compr cfg) :
    tiDictSize pre = fromLe ((bytes.drop magicBytes.length).take 8) ∧
    Gen.preHeaderSize + tiDictSize pre + 72 ≤ bytes.length ∧
    pre ++ rest = bytes.take (Gen.preHeaderSize + tiDictSize pre + 72) := by
  obtain ⟨-, hpre⟩ := honestReadAt_some w.hpre
  obtain ⟨h2, hrest⟩ := honestReadAt_some w.hrest
  have hps : Gen.preHeaderSize = 14 := rfl
  have hml := magicBytes_length
  simp only [List.drop_zero] at hpre
  refine ⟨?_, Nat.add_assoc .. ▸ h2, ?_⟩
  · unfold tiDictSize
    rw [hpre, hml, hps, List.drop_take, List.take_take]
    rfl
  · rw [Nat.add_assoc, List.take_add, ← hpre, ← hrest]

theorem take_header_split (b : Bytes) (n : Nat) :
    b.take (n + 72) = b.take (n + 8) ++ (b.drop (n + 8)).take 64 := by
  rw [← List.take_add]

/-- C04 T2: whatever bytes are presented, if they open, then the 64 bytes found where their own
size field says the checksum lies are the strong hash of everything before them; and the header
checksum reported is exactly those bytes. -/
theorem tryInit_checksum {bytes : Bytes} (h : tryInit H features (honestReadAt bytes) = .ok a) :
    ∃ dictSize, dictSize = fromLe ((bytes.drop magicBytes.length).take 8) ∧
      a.headerSize = Gen.preHeaderSize + dictSize + 72 ∧ a.headerSize ≤ bytes.length ∧
      a.headerChecksum = (bytes.drop (Gen.preHeaderSize + dictSize + 8)).take 64 ∧
      a.headerChecksum = H (bytes.take (Gen.preHeaderSize + dictSize + 8)) := by
  obtain ⟨pre, rest, dict, params, cc, compr, cfg, w, rfl⟩ := tryInit_ok_inv h
  obtain ⟨hds, hlen, hhdr⟩ := tiOk_honest w
  have hlt := List.length_take_of_le hlen
  have h8 : Gen.preHeaderSize + tiDictSize pre + 8 ≤ bytes.length :=
    Nat.le_trans (Nat.add_le_add_left (by decide) _) hlen
  refine ⟨tiDictSize pre, hds, ?_, ?_, ?_, ?_⟩
  · show (pre ++ rest).length = _
    rw [hhdr, hlt]
  · show (pre ++ rest).length ≤ _
    rw [hhdr, hlt]; exact hlen
  · show ((pre ++ rest).drop _).take 64 = _
    rw [hhdr, take_header_split, List.drop_left' (List.length_take_of_le h8), List.take_take, Nat.min_self]
  · show ((pre ++ rest).drop _).take 64 = _
    rw [w.hck, hhdr, List.take_take, Nat.min_eq_left (Nat.add_le_add_left (by decide) _)]

/-- The checksum is the hash of everything before it, the size of "everything before it" is read
from inside it, and the hash is recomputed on opening. -/
theorem header_eq_of_checksum_eq {b b' : Bytes} {a' : Archive}
    (h : tryInit H features (honestReadAt b) = .ok a)
    (h' : tryInit H features (honestReadAt b') = .ok a')
    (hpin : a'.headerChecksum = a.headerChecksum) :
    (a'.headerSize = a.headerSize ∧ b'.take a.headerSize = b.take a.headerSize) ∨
      (∃ p p', p ≠ p' ∧ H p = H p') := by
  obtain ⟨ds, -, hhs, hle, hc1, hc2⟩ := tryInit_checksum h
  obtain ⟨ds', -, hhs', hle', hc1', hc2'⟩ := tryInit_checksum h'
  by_cases hp : b'.take (Gen.preHeaderSize + ds' + 8) = b.take (Gen.preHeaderSize + ds + 8)
  · left
    -- equal prefixes, each within its string, are equally long
    have hl := congrArg List.length hp
    rw [List.length_take_of_le (by omega), List.length_take_of_le (by omega)] at hl
    obtain rfl : ds' = ds := by omega
    exact ⟨by rw [hhs, hhs'], by rw [hhs, take_header_split, take_header_split, hp, ← hc1, ← hc1', hpin]⟩
  · right
    exact ⟨_, _, hp, by rw [← hc2, ← hc2', hpin]⟩

end

set_option linter.unusedVariables false in
/-- C04 T2, the corruption classes: `b'` is an alteration of a genuine archive `b` that keeps the
size field.  If `b'` still opens then either its whole header region is unchanged, or a second
preimage / collision of the header hash is exhibited, or the alteration also rewrote the
checksum field to the hash of the altered prefix (which any party can do: the checksum is a
hash, not a MAC - this is what `--verify-header` is for). -/
theorem header_tamper (H : Bytes → Bytes) (features : List Nat) (b b' : Bytes) (a a' : Archive)
    (h : tryInit H features (honestReadAt b) = .ok a)
    (h' : tryInit H features (honestReadAt b') = .ok a')
    (hsize : (b'.drop magicBytes.length).take 8 = (b.drop magicBytes.length).take 8) :
    b'.take a.headerSize = b.take a.headerSize ∨
    (∃ p p', p ≠ p' ∧ H p = H p') ∨
    a'.headerChecksum ≠ a.headerChecksum := by
  by_cases hc : a'.headerChecksum = a.headerChecksum
  · exact (header_eq_of_checksum_eq h h' hc).elim (fun e => .inl e.2)
      (fun c => .inr (.inl c))
  · exact .inr (.inr hc)

section
variable (H : Bytes → Bytes) (d : ChunkDictionary)

/-- The first 14 bytes `buildHeader` writes. -/
def bhPre : Bytes := magicBytes ++ le64 (encodeDictionary d).length

/-- Everything before the checksum.  86 = 14 (pre-header) + 8 (this field) + 64 (checksum): the
chunk data offset written is the length of the whole header. -/
def bhBody : Bytes := bhPre d ++ (encodeDictionary d ++ le64 ((encodeDictionary d).length + 86))

/-- What `buildHeader` writes after the pre-header. -/
def bhRest : Bytes := (encodeDictionary d ++ le64 ((encodeDictionary d).length + 86)) ++ H (bhBody d)

theorem bhPre_length : (bhPre d).length = Gen.preHeaderSize := by
  simp [bhPre, magicBytes_length, le64_length]
  rfl

theorem bhBody_length : (bhBody d).length = Gen.preHeaderSize + (encodeDictionary d).length + 8 := by
  simp only [bhBody, List.length_append, bhPre_length, le64_length, Nat.add_assoc]

theorem bhRest_length (hH : ∀ x, (H x).length = 64) :
    (bhRest H d).length = (encodeDictionary d).length + 72 := by
  simp only [bhRest, List.length_append, le64_length, hH]

theorem buildHeader_eq : buildHeader H d none = bhPre d ++ bhRest H d := by
  have hl : (magicBytes ++ (le64 (encodeDictionary d).length ++ encodeDictionary d)).length + 8 + 64 =
      (encodeDictionary d).length + 86 := by
    simp [magicBytes_length, le64_length]; omega
  simp only [buildHeader, Option.getD_none, bhPre, bhRest, bhBody, List.append_assoc, hl]

theorem buildHeader_eq_body : bhPre d ++ bhRest H d = bhBody d ++ H (bhBody d) := by
  simp only [bhRest, bhBody, List.append_assoc]

theorem buildHeader_length (hH : ∀ x, (H x).length = 64) :
    (buildHeader H d none).length = (encodeDictionary d).length + 86 := by
  have hps : Gen.preHeaderSize = 14 := rfl
  rw [buildHeader_eq, List.length_append, bhPre_length, bhRest_length H d hH]
  omega

theorem bh_dictSize (h : (encodeDictionary d).length + 86 ≤ usizeMax) :
    tiDictSize (bhPre d) = (encodeDictionary d).length := by
  unfold usizeMax at h
  unfold tiDictSize bhPre
  rw [List.drop_left, List.take_of_length_le (by simp [le64_length]), fromLe_le64 (by omega)]

theorem bh_cdo (hH : ∀ x, (H x).length = 64) (h : (encodeDictionary d).length + 86 ≤ usizeMax) :
    tiCdo (bhPre d) (bhRest H d) = (buildHeader H d none).length := by
  have : bhPre d ++ bhRest H d = (bhPre d ++ encodeDictionary d) ++
      (le64 ((encodeDictionary d).length + 86) ++ H (bhBody d)) := by
    simp only [bhRest, List.append_assoc]
  unfold tiCdo
  rw [bh_dictSize d h, this, List.drop_left' (by rw [List.length_append, bhPre_length]),
    List.take_left' (le64_length _), buildHeader_length H d hH]
  unfold usizeMax at h
  exact fromLe_le64 (by omega)

end

/-- C11 T4: the reader reports verbatim what the header builder was given. -/
theorem tryInit_buildHeader (H : Bytes → Bytes) (hH : ∀ x, (H x).length = 64) (features : List Nat)
    (d : ChunkDictionary) (hwf : DictWF d) (data : Bytes)
    (p : ChunkerParameters) (c : ChunkCompression) (cfg : Config) (compr : Compr)
    (hp : d.chunkerParams = some p) (hc : d.chunkCompression = some c)
    (hcfg : configFromParams p = .ok cfg) (hcompr : compressionFromDict features c = .ok compr)
    (hord : ∀ i ∈ d.rebuildOrder, i < d.chunkDescriptors.length)
    (hhash : 1 ≤ p.chunkHashLength ∧ p.chunkHashLength ≤ 64)
    (hsum : (d.rebuildOrder.map fun i => ((d.chunkDescriptors[i]?).map (·.sourceSize)).getD 0).sum =
      d.sourceTotalSize)
    (hsz : ∀ cd ∈ d.chunkDescriptors, 1 ≤ cd.archiveSize)
    (hoff : ∀ cd ∈ d.chunkDescriptors, (buildHeader H d none).length + cd.archiveOffset + cd.archiveSize ≤ usizeMax)
    (hlen : (encodeDictionary d).length + 86 ≤ usizeMax) :
    ∃ a, tryInit H features (honestReadAt (buildHeader H d none ++ data)) = .ok a ∧
      a.config = cfg ∧ a.hashLength = p.chunkHashLength ∧ a.compression = compr ∧
      a.metadata = d.metadata ∧ a.version = d.applicationVersion ∧
      a.sourceTotalSize = d.sourceTotalSize ∧
      a.sourceChecksum = hashTruncate d.sourceChecksum 64 ∧
      a.sourceOrder = d.rebuildOrder ∧
      a.headerSize = (buildHeader H d none).length ∧
      a.chunkDataOffset = (buildHeader H d none).length ∧
      a.chunks = d.chunkDescriptors.map (fun cd =>
        ⟨hashTruncate cd.checksum 64, cd.archiveSize, (buildHeader H d none).length + cd.archiveOffset, cd.sourceSize⟩) := by
  have hps : Gen.preHeaderSize = 14 := rfl
  have hds := bh_dictSize d hlen
  have hcdo := bh_cdo H d hH hlen
  have hrl : (bhRest H d).length = tiDictSize (bhPre d) + 72 := by rw [hds, bhRest_length H d hH]
  have hbl := bhBody_length d
  have w : TiOk H features (honestReadAt (buildHeader H d none ++ data)) (bhPre d) (bhRest H d) d p c
      compr cfg := by
    rw [buildHeader_eq, List.append_assoc]
    exact {
      hhash, hord, hcompr, hcfg
      hparams := hp
      hcc := hc
      hpre := honestReadAt_append (a := []) rfl (bhPre_length d) _
      hmagic := .inl (List.take_left ..)
      hprelen := Nat.le_of_eq (bhPre_length d).symm
      hend := by rw [hds]; omega
      hrest := honestReadAt_append (bhPre_length d) hrl data
      hhl := by rw [List.length_append, bhPre_length, hrl]; omega
      hck := by
        rw [hds, buildHeader_eq_body, List.drop_left' hbl, List.take_left' hbl,
          List.take_of_length_le (Nat.le_of_eq (hH _))]
      hdict := by
        rw [hds, List.drop_left' (bhPre_length d), bhRest, List.append_assoc, List.take_left]
        exact proto_roundtrip d hwf
      hoff := fun cd hcd => hcdo ▸ hoff cd hcd
      hsz := fun cd hcd => Nat.ne_of_gt (hsz cd hcd)
      hsum := by simp only [openDescr_sourceSize]; exact hsum }
  refine ⟨_, tryInit_ok_of w, rfl, rfl, rfl, rfl, rfl, rfl, rfl, rfl, ?_⟩
  dsimp only [tiArchive]
  rw [hcdo, ← buildHeader_eq]
  exact ⟨rfl, rfl, rfl⟩

end Bita.Proofs
