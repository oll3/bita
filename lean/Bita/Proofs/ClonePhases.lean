/-
  The phases of a clone at the level of tilings.  `Phase1NJ` says what the state before the
  seeds (plain, or after the in-place reordering) provides, and a feed state over the source
  tiling provides it (`Phase1NJ.of_feedInv`).  From there on, whatever the reader does, the output
  state is that state after feeding the contents of some keys, and of all missing ones if no
  error is reported.
-/
import Bita.Proofs.CloneFeeds
import Bita.Proofs.CloneIndex
import Bita.Proofs.CloneLength

namespace Bita.Proofs
open Bita Bita.Spec Bita.Proofs.Exec

/-- A content function that is right on the source chunks and (when the output is the seed) on
the chunks of the prior output, and source keys identify their chunk among all byte strings. -/
structure CloneSetup (H : Bytes → Bytes) (a : Archive) (opts : CloneOpts) (prior : Bytes)
    (cks : List Bytes) (content : Bytes → Bytes) : Prop where
  src_content : ∀ c ∈ cks, content (ckey H a.hashLength c) = c
  good : ∀ y ∈ cks, ∀ x, ckey H a.hashLength x = ckey H a.hashLength y → x = y
  prior_content : opts.seedOutput = true →
    ∀ c ∈ chunksOf a.config prior, content (ckey H a.hashLength c) = c

/-- Keys the scan of the prior output finds (when the output is the seed). -/
def priorKeys (H : Bytes → Bytes) (a : Archive) (opts : CloneOpts) (prior : Bytes) : List Bytes :=
  if opts.seedOutput then chunkKeys H a.config a.hashLength prior else []

/-- Keys the scan of the prior output (when it is the seed) and of the seeds find. -/
def foundKeys (H : Bytes → Bytes) (a : Archive) (opts : CloneOpts) (prior : Bytes) (seeds : List Bytes) : List Bytes :=
  (if opts.seedOutput then chunkKeys H a.config a.hashLength prior else []) ++
    seeds.flatMap (chunkKeys H a.config a.hashLength)

/-- Options with `seedOutput = false`, under which `CloneSetup` asks nothing about the prior
output. -/
abbrev plainOpts : CloneOpts := {}

/-- What the four theorems of `CloneNoJunk` (`clone_sound_nojunk`, `clone_complete_nojunk`,
`fetch_exact_nojunk`, `clone_write_log_exact_nojunk`) need about the state `st1` before the seeds.
"NJ", no junk: `content` has to be right on the source chunks only (`setup` is over `plainOpts`);
nothing is asked about the junk of the prior output, its chunks whose key is no source key, and so
the four have no escape clause for collisions among those (the header of `CloneNoJunk` says why
the run never looks at them). -/
structure Phase1NJ (H : Bytes → Bytes) (a : Archive) (opts : CloneOpts) (prior src : Bytes)
    (cks : List Bytes) (content : Bytes → Bytes) (st1 : OutSt Bytes) : Prop where
  setup : CloneSetup H a plainOpts prior cks content
  hix : a.sourceIndex = some (indexOf content (cks.map (ckey H a.hashLength)))
  hst1 : cloneSt1 H a opts prior (indexOf content (cks.map (ckey H a.hashLength))) = some st1
  keys : ∀ k, k ∈ st1.index.keys ↔ (k ∈ cks.map (ckey H a.hashLength) ∧ k ∉ priorKeys H a opts prior)
  feed : ∀ ks, (∀ k ∈ st1.index.keys, k ∈ ks) → resize (feedAll content st1 ks).file src.length = src
  writes : ∀ ks,
    (∀ w ∈ writesOf (feedAll content st1 ks).log, w ∈ chunkPlacements cks 0) ∧
    ((writesOf (feedAll content st1 ks).log).map (·.1)).Nodup ∧
    (∀ w ∈ writesOf (feedAll content st1 ks).log, w.1 + w.2.length ≤ src.length) ∧
    (opts.seedOutput = true → ∀ w ∈ writesOf (feedAll content st1 ks).log,
      ∀ c ∈ chunkAll a.config prior, c.1 = w.1 → slice prior c.1 c.2 ≠ w.2)

theorem chunkPlacements_eq {key content : Bytes → Bytes} {cks : List Bytes}
    (hc : ∀ c ∈ cks, content (key c) = c) (off : Nat) :
    chunkPlacements cks off = (placements content (cks.map key) off).map fun e => (e.2, content e.1) := by
  induction cks generalizing off with
  | nil => rfl
  | cons c cks ih =>
    rw [List.map_cons, placements, List.map_cons, hc c List.mem_cons_self,
      ← ih fun c' h' => hc c' (List.mem_cons_of_mem _ h')]
    rfl

/-- A global instance: every file that imports this one sees it.  It is found at once wherever
membership in a list of keys is decided; otherwise each such search first fails through the order
classes of `UInt8`, which costs as much as a small proof. -/
instance : LawfulBEq Bytes := inferInstance

section
variable {H : Bytes → Bytes} {a : Archive} {opts : CloneOpts} {prior src : Bytes} {cks : List Bytes}
  {content : Bytes → Bytes} {st1 : OutSt Bytes}

theorem descr_key (hH : ∀ x, (H x).length = 64) (hd : Describes H a src cks) :
    ∀ d ∈ a.chunks, d.checksum.length = a.hashLength ∧
      hashTruncate d.checksum a.hashLength = d.checksum ∧
      d.checksum ∈ cks.map (ckey H a.hashLength) := by
  intro d hdm
  obtain ⟨c, hc, _, hk⟩ := hd.used d hdm
  rw [hk]
  exact ⟨length_ckey hH hd.hash_len.2 c, hashTruncate_idem _ _, List.mem_map_of_mem hc⟩

theorem key_descr (hd : Describes H a src cks) :
    ∀ k ∈ cks.map (ckey H a.hashLength), ∃ d ∈ a.chunks, d.checksum = k := by
  intro k hk
  obtain ⟨c, hc, rfl⟩ := List.mem_map.1 hk
  obtain ⟨i, hi, rfl⟩ := List.getElem_of_mem hc
  obtain ⟨j, d, _, hdj, _, hck⟩ := hd.descr i hi
  exact ⟨d, List.mem_of_getElem? hdj, hck⟩

/-- `O`: the keys of the prior output as a tiling (none for a plain clone; in place, `njKey` of
`CloneNoJunk`), all in place before the seeds, hence `R = O` in `hf`.  `hOk` restates "not in `O`"
as "not found by the scan" for `keys`; `hOp` (a prior chunk equal to a source chunk lies in `O`
under that chunk's key, at its offset) gives the last clause of `writes`. -/
theorem Phase1NJ.of_feedInv {O : List Bytes}
    (hd : Describes H a src cks) (hs : CloneSetup H a plainOpts prior cks content)
    (hst1 : cloneSt1 H a opts prior (indexOf content (cks.map (ckey H a.hashLength))) = some st1)
    (hf : FeedInv content O (cks.map (ckey H a.hashLength)) st1 O)
    (hOk : ∀ k ∈ cks.map (ckey H a.hashLength), k ∈ O ↔ k ∈ priorKeys H a opts prior)
    (hOp : opts.seedOutput = true → ∀ c ∈ chunkAll a.config prior, slice prior c.1 c.2 ∈ cks →
      (ckey H a.hashLength (slice prior c.1 c.2), c.1) ∈ placements content O 0) :
    Phase1NJ H a opts prior src cks content st1 := by
  have hN : ∀ k ∈ cks.map (ckey H a.hashLength), content k ≠ [] :=
    List.forall_mem_map.2 fun c hcm => (hs.src_content c hcm).symm ▸ hd.nonempty c hcm
  have hfile : fileOf content (cks.map (ckey H a.hashLength)) = src := by
    rw [fileOf_map hs.src_content, List.map_id', ← hd.tiles]
  refine ⟨hs, sourceIndex_eq hd hs.src_content, hst1, fun k => ?_,
    fun ks hks => hfile ▸ hf.exact hN ks hks, fun ks => ?_⟩
  · rw [hf.mem_keys hN]
    exact and_congr_right fun hk => not_congr (hOk k hk)
  · obtain ⟨t1, t2, t3, t4⟩ := (feedAll_inv hN ks hf).writes hN
    refine ⟨fun w hw => ?_, t2, hfile ▸ t4, fun hso w hw c hcm hoff heq => ?_⟩
    · obtain ⟨k, hk, hwk⟩ := t1 w hw
      rw [chunkPlacements_eq hs.src_content]
      exact List.mem_map.2 ⟨_, hk, Prod.ext rfl hwk.symm⟩
    · obtain ⟨k, hk, hwk⟩ := t1 w hw
      obtain ⟨y, hy, rfl⟩ := List.mem_map.1 (mem_placements hk).2.2
      -- the prior chunk at that offset is the source chunk `y`, so the scan finds it under `y`'s key
      obtain rfl : slice prior c.1 c.2 = y := by rw [heq, hwk, hs.src_content y hy]
      exact t3 w hw _ hk (hoff ▸ hOp hso c hcm hy)

variable (P : Phase1NJ H a opts prior src cks content st1) (seeds : List Bytes)
include P

theorem Phase1NJ.goodSt : GoodSt (ckey H a.hashLength) content st1 := by
  intro k hk x hx
  obtain ⟨c, hc, rfl⟩ := List.mem_map.1 ((P.keys k).1 hk).1
  rw [P.setup.src_content c hc]
  exact P.setup.good c hc x hx

theorem Phase1NJ.afterSeeds :
    cloneSt2 H a seeds st1 = feedAll content st1 (seeds.flatMap (chunkKeys H a.config a.hashLength)) :=
  feedSeeds_eq a.config seeds P.goodSt

variable (hH : ∀ x, (H x).length = 64) (hd : Describes H a src cks)
include hH hd

theorem Phase1NJ.wanted {d : Descr} (hdm : d ∈ a.chunks) :
    (cloneSt2 H a seeds st1).index.contains (hashTruncate d.checksum a.hashLength) = true ↔
      d.checksum ∈ st1.index.keys ∧ d.checksum ∉ seeds.flatMap (chunkKeys H a.config a.hashLength) := by
  rw [(descr_key hH hd d hdm).2.1, contains_iff_mem_keys, P.afterSeeds, keys_feedAll]

theorem Phase1NJ.fetchList_eq :
    a.fetchList (cloneSt2 H a seeds st1).index =
      a.chunks.filter (fun d =>
        !(foundKeys H a opts prior seeds).contains (hashTruncate d.checksum a.hashLength)) := by
  unfold Archive.fetchList foundKeys
  refine List.filter_congr fun d hdm => ?_
  obtain ⟨_, h2, h3⟩ := descr_key hH hd d hdm
  rw [Bool.eq_iff_iff, P.wanted seeds hH hd hdm, P.keys, priorKeys, h2]
  simp only [Bool.not_eq_true', List.contains_eq_mem, List.mem_append, decide_eq_false_iff_not, not_or]
  exact ⟨fun h => ⟨h.1.2, h.2⟩, fun h => ⟨⟨h3, h.1⟩, h.2⟩⟩

variable (decomp : Nat → Bytes → Nat → Option Bytes) (readChunks : List (Nat × Nat) → List (Option Bytes))

theorem Phase1NJ.afterArchive :
    ∃ ks, (cloneSt3 H decomp readChunks a seeds st1).1 = feedAll content st1 ks ∧
      ((cloneSt3 H decomp readChunks a seeds st1).2 = none →
        (cloneRanges a (cloneSt2 H a seeds st1)).length ≤
          (readChunks (cloneRanges a (cloneSt2 H a seeds st1))).length →
        ∀ k ∈ st1.index.keys, k ∈ ks) := by
  have h2 := P.afterSeeds seeds
  obtain ⟨n, hn, hall⟩ := feedArchive_prefix (decomp := decomp)
    (a.fetchList (cloneSt2 H a seeds st1).index) (readChunks (cloneRanges a (cloneSt2 H a seeds st1)))
    (h2 ▸ goodSt_feedAll P.goodSt _ : GoodSt (ckey H a.hashLength) content (cloneSt2 H a seeds st1))
    (fun d h => (descr_key hH hd d (List.mem_filter.1 h).1).1)
  refine ⟨seeds.flatMap (chunkKeys H a.config a.hashLength) ++
    ((a.fetchList (cloneSt2 H a seeds st1).index).take n).map (fun d => hashTruncate d.checksum a.hashLength),
    by rw [feedAll_append, ← h2]; exact hn, ?_⟩
  intro hok hlen k hk
  rw [List.take_of_length_le (hall hok (by rwa [cloneRanges, List.length_map] at hlen)), List.mem_append]
  by_cases hs : k ∈ seeds.flatMap (chunkKeys H a.config a.hashLength)
  · exact Or.inl hs
  · right
    obtain ⟨d, hdm, rfl⟩ := key_descr hd k ((P.keys k).1 hk).1
    exact List.mem_map.2 ⟨d, List.mem_filter.2 ⟨hdm, (P.wanted seeds hH hd hdm).2 ⟨hk, hs⟩⟩,
      (descr_key hH hd d hdm).2.1⟩

theorem Phase1NJ.afterArchive_file
    (h3 : (cloneSt3 H decomp readChunks a seeds st1).2 = none)
    (hlen : (cloneRanges a (cloneSt2 H a seeds st1)).length ≤
      (readChunks (cloneRanges a (cloneSt2 H a seeds st1))).length) :
    setLen (cloneSt3 H decomp readChunks a seeds st1).1.file src.length = src ∧
      prior.length ≤ (cloneSt3 H decomp readChunks a seeds st1).1.file.length := by
  obtain ⟨ks, hks, hcov⟩ := P.afterArchive seeds hH hd decomp readChunks
  rw [hks]
  exact ⟨(resize_eq_setLen _ _).symm.trans (P.feed ks (hcov h3 hlen)),
    Nat.le_trans (cloneSt1_length_le P.hst1) (feedAll_length_le content ks st1)⟩

omit hH hd in
theorem Phase1NJ.run_cases {features : List Nat} {readAt : Nat → Nat → Option Bytes}
    (hinit : tryInit H features readAt = .ok a) :
    let r := Clone.run H decomp features readAt readChunks opts prior seeds
    (r.result ≠ .ok ∧ r.output = prior ∧ r.log = [] ∧ r.requests = cloneHdrReqs a) ∨
      r = runFromSeeds H decomp readChunks opts seeds a st1 := by
  rcases Proofs.run_cases decomp readChunks opts prior seeds hinit with h | h
  · exact Or.inl h
  · obtain ⟨ix, st1', hix, hst1, -, -, hrun⟩ := h
    rw [P.hix] at hix
    cases hix
    rw [P.hst1] at hst1
    cases hst1
    exact Or.inr hrun

end

end Bita.Proofs
