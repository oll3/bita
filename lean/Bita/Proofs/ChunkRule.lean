/-
  The chunker model computes the pure chunking rule (C09 T5): a chunker that answers as a rule
  `cut` says at every chunk start (`next_spec` for the rolling ones) emits `cutsFrom cut` once the
  whole source is buffered (`drain_cuts`); the three kinds of configuration are instances.
-/
import Bita.Proofs.ChunkRuleMach
import Bita.Proofs.ChunkStream
import Bita.Proofs.Slice

namespace Bita.Proofs
open Bita Bita.Spec Bita.Proofs.CS Bita.Proofs.SpecChunks

namespace Rule

/-- A chunker that answers as `cut s` says wherever it stands at a chunk start (`St s c`: chunker
`c` stands at the chunk start `s` of `data`) drains the buffered `data` into `cutsFrom cut`. -/
theorem drain_cuts {data : Bytes} {cut : Nat → Option Nat} (St : Nat → Chunker → Prop)
    (hpos : ∀ s L, s < data.length → cut s = some L → L ≠ 0)
    (hnext : ∀ s c, St s c → s < data.length →
      Answer St s (cut s) (c.next (data.drop s) (data.length - s)))
    {fuel s : Nat} {c : Chunker} (st : St s c) (hf : data.length - s < fuel) :
    (SC.drain fuel ⟨s, data.drop s, data.length - s, c⟩).1 ++
        tailOf (SC.drain fuel ⟨s, data.drop s, data.length - s, c⟩).2
      = cutsFrom cut data.length fuel s := by
  -- the cases of `cutsFrom`: no fuel, end of data, a cut of 0, a cut of `L`, no cut
  fun_induction cutsFrom cut data.length fuel s generalizing c with
  | case1 => omega
  | case2 k s hs =>
    have hz : data.length - s = 0 := Nat.sub_eq_zero_of_le hs
    rw [drain_have_zero _ _ hz, tailOf, if_pos hz]
    rfl
  | case3 k s hs h0 => exact absurd rfl (hpos s 0 (Nat.lt_of_not_le hs) h0)
  | case4 k s hs L hL h0 ih =>
    have hlt := Nat.lt_of_not_le hs
    have hn := hnext s c st hlt
    rw [hL] at hn
    obtain ⟨c', e, st'⟩ := hn
    rw [drain_some (Nat.sub_ne_zero_of_lt hlt) e, if_neg h0]
    dsimp only
    rw [List.drop_drop, Nat.sub_sub]
    exact congrArg _ (ih st' (by omega))
  | case5 k s hs hc =>
    have hlt := Nat.lt_of_not_le hs
    have hn := hnext s c st hlt
    rw [hc] at hn
    obtain ⟨c', e⟩ := hn
    rw [drain_none (Nat.sub_ne_zero_of_lt hlt) e, tailOf, if_neg (Nat.sub_ne_zero_of_lt hlt)]
    rfl

theorem fixed_next (n : Nat) (data : Bytes) (s : Nat) (c : Chunker) (st : c = .fixed n)
    (hs : s < data.length) :
    Answer (fun _ c => c = .fixed n) s (cutOf (.fixed n) data s)
      (c.next (data.drop s) (data.length - s)) := by
  subst st
  simp only [cutOf, Chunker.next]
  by_cases hfit : s + n ≤ data.length
  · rw [if_pos hfit, if_pos (Nat.le_sub_of_add_le' hfit)]
    exact ⟨_, rfl, rfl⟩
  · rw [if_neg hfit, if_neg (by omega)]
    exact .more

end Rule

open Rule in
theorem chunkAll_eq_specChunks (cfg : Config) (hv : cfg.Valid) (data : Bytes) :
    chunkAll cfg data = specChunks cfg data := by
  rw [chunkAll_eq_ref cfg hv, specChunks_eq]
  have hpos := fun s L hs h => Nat.ne_of_gt (cutOf_bounds cfg hv data s L hs h).1
  cases cfg with
  | rollsum f =>
    exact drain_cuts (RollingAt .roll f data) hpos
      (fun _ _ st hs => next_spec (FilterConfig.Sane_of_ValidRoll hv) nofun hs st)
      ⟨_, rfl, Scan_new_roll f data⟩ (Nat.lt_succ_self _)
  | buzhash f =>
    exact drain_cuts (RollingAt .buz f data) hpos
      (fun _ _ st hs => next_spec (FilterConfig.Sane_of_Valid hv) (fun _ => hv.window_le) hs st)
      ⟨_, rfl, Scan_new_buz f data hv.1⟩ (Nat.lt_succ_self _)
  | fixed n =>
    exact drain_cuts (fun _ c => c = .fixed n) hpos (fixed_next n data) rfl (Nat.lt_succ_self _)

/-- The chunks the archive's chunker cuts a byte string into. -/
def chunksOf (cfg : Config) (data : Bytes) : List Bytes :=
  (chunkAll cfg data).map fun c => slice data c.1 c.2

theorem chunkAll_tiles (cfg : Config) (hv : cfg.Valid) (data : Bytes) :
    Tiles (chunkAll cfg data) 0 data.length := by
  rw [chunkAll_eq_specChunks cfg hv]; exact specChunks_tile cfg hv data

theorem chunksOf_flatten (cfg : Config) (hv : cfg.Valid) (data : Bytes) :
    (chunksOf cfg data).flatten = data := by
  have := tiles_concat data (chunkAll cfg data) 0 (chunkAll_tiles cfg hv data)
  simpa [chunksOf] using this

open WriterDescr (maxChunk) in
theorem chunksOf_bounds (cfg : Config) (hv : cfg.Valid) (data : Bytes) :
    ∀ x ∈ chunksOf cfg data, 1 ≤ x.length ∧ x.length ≤ maxChunk cfg := by
  intro x hx
  obtain ⟨c, hc, rfl⟩ := List.mem_map.mp hx
  obtain ⟨h1, h2, _⟩ := tiles_mem _ _ _ (chunkAll_tiles cfg hv data) c hc
  rw [chunkAll_eq_specChunks cfg hv] at hc
  rw [slice_length h2]
  exact ⟨h1, specChunks_le cfg hv data c hc⟩

theorem chunksOf_ne_nil (cfg : Config) (hv : cfg.Valid) (data : Bytes) :
    ∀ c ∈ chunksOf cfg data, c ≠ [] :=
  fun c hc => List.ne_nil_of_length_pos (chunksOf_bounds cfg hv data c hc).1

end Bita.Proofs
