/-
  Facts about tilings: `placements`, `fileOf` (regions are disjoint, cover the file, hold
  their chunk).
-/
import Bita.Spec.InPlace
import Bita.Proofs.Slice

namespace Bita.Proofs.Exec
open Bita Bita.Spec

variable {κ : Type}

theorem fileOf_nil (c : κ → Bytes) : fileOf c [] = [] := rfl

theorem fileOf_cons (c : κ → Bytes) (k : κ) (ks : List κ) :
    fileOf c (k :: ks) = c k ++ fileOf c ks := by simp [fileOf]

theorem mem_placements {c : κ → Bytes} {ts : List κ} {off : Nat} {e : κ × Nat}
    (h : e ∈ placements c ts off) :
    off ≤ e.2 ∧ e.2 + (c e.1).length ≤ off + (fileOf c ts).length ∧ e.1 ∈ ts := by
  induction ts generalizing off with
  | nil => cases h
  | cons k ks ih =>
    rw [fileOf_cons, List.length_append]
    rcases List.mem_cons.1 h with rfl | h
    · simp
    · obtain ⟨h1, h2, h3⟩ := ih h
      exact ⟨by omega, by omega, List.mem_cons_of_mem _ h3⟩

theorem exists_placement (c : κ → Bytes) (ts : List κ) (off : Nat) (k : κ) (h : k ∈ ts) :
    ∃ o, (k, o) ∈ placements c ts off := by
  induction ts generalizing off with
  | nil => cases h
  | cons t ks ih =>
    rcases List.mem_cons.1 h with rfl | h
    · exact ⟨off, List.mem_cons_self⟩
    · exact (ih _ h).imp fun o ho => List.mem_cons_of_mem _ ho

theorem pairwise_mem_or {α : Type} {R : α → α → Prop} {l : List α} (h : l.Pairwise R) {a b : α}
    (ha : a ∈ l) (hb : b ∈ l) : a = b ∨ R a b ∨ R b a := by
  induction h with
  | nil => simp at ha
  | cons hx _ ih =>
    rcases List.mem_cons.mp ha with rfl | ha' <;> rcases List.mem_cons.mp hb with rfl | hb'
    · exact Or.inl rfl
    · exact Or.inr (Or.inl (hx _ hb'))
    · exact Or.inr (Or.inr (hx _ ha'))
    · exact ih ha' hb'

theorem placements_pairwise (c : κ → Bytes) (ts : List κ) (off : Nat) :
    (placements c ts off).Pairwise (fun a b => a.2 + (c a.1).length ≤ b.2) := by
  induction ts generalizing off with
  | nil => simp [placements]
  | cons k ks ih =>
    simp only [placements, List.pairwise_cons]
    exact ⟨fun b hb => (mem_placements hb).1, ih _⟩

theorem placements_disjoint (c : κ → Bytes) (ts : List κ) (off : Nat) :
    ∀ e1 ∈ placements c ts off, ∀ e2 ∈ placements c ts off,
      e1 = e2 ∨ e1.2 + (c e1.1).length ≤ e2.2 ∨ e2.2 + (c e2.1).length ≤ e1.2 :=
  fun _ h1 _ h2 => pairwise_mem_or (placements_pairwise c ts off) h1 h2

theorem placements_sorted (c : κ → Bytes) (ts : List κ) (off : Nat) (hne : ∀ k ∈ ts, c k ≠ []) :
    (placements c ts off).Pairwise (fun a b => a.2 < b.2) := by
  refine (placements_pairwise c ts off).imp_of_mem ?_
  intro a b ha _ hab
  have := List.length_pos_iff.2 (hne a.1 (mem_placements ha).2.2)
  omega

theorem placements_functional {c : κ → Bytes} {ts : List κ} {off : Nat}
    (hne : ∀ k ∈ ts, c k ≠ []) {k1 k2 : κ} {o : Nat}
    (h1 : (k1, o) ∈ placements c ts off) (h2 : (k2, o) ∈ placements c ts off) : k1 = k2 := by
  rcases pairwise_mem_or (placements_sorted c ts off hne) h1 h2 with h | h | h
  · exact congrArg Prod.fst h
  · exact absurd h (Nat.lt_irrefl _)
  · exact absurd h (Nat.lt_irrefl _)

theorem slice_fileOf (c : κ → Bytes) (pre : Bytes) (ts : List κ) (e : κ × Nat)
    (h : e ∈ placements c ts pre.length) :
    slice (pre ++ fileOf c ts) e.2 (c e.1).length = c e.1 := by
  induction ts generalizing pre with
  | nil => cases h
  | cons k ks ih =>
    rw [fileOf_cons]
    rcases List.mem_cons.1 h with rfl | h
    · rw [slice, List.drop_left, List.take_left]
    · rw [← List.append_assoc]
      exact ih (pre ++ c k) (by rwa [List.length_append])

theorem slice_of_placements (c : κ → Bytes) (f : Bytes) (ts : List κ) (off : Nat)
    (h : ∀ e ∈ placements c ts off, slice f e.2 (c e.1).length = c e.1) :
    slice f off (fileOf c ts).length = fileOf c ts := by
  induction ts generalizing off with
  | nil => exact slice_zero f off
  | cons k ks ih =>
    rw [fileOf_cons, List.length_append, ← slice_append, h (k, off) List.mem_cons_self,
      ih _ fun e he => h e (List.mem_cons_of_mem _ he)]

theorem resize_of_placements (c : κ → Bytes) (f : Bytes) (ts : List κ)
    (h : ∀ e ∈ placements c ts 0, slice f e.2 (c e.1).length = c e.1) :
    resize f (fileOf c ts).length = fileOf c ts := by
  have h1 := slice_of_placements c f ts 0 h
  have h2 : f.take (fileOf c ts).length = fileOf c ts := by simpa [slice] using h1
  have h3 : (fileOf c ts).length ≤ f.length := by
    have := congrArg List.length h2
    simp at this; omega
  simp [resize, h2, h3]

/-- The tiling level's `resize` and the model's `setLen` (`File::set_len`) are one function under
two names; results about tilings pass to statements about `Clone.run` through this. -/
theorem resize_eq_setLen (f : Bytes) (n : Nat) : resize f n = setLen f n := rfl

end Bita.Proofs.Exec
