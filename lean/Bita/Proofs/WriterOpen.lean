/-
  What the reader needs from the dictionary the writers build: the recorded options convert back,
  truncated hashes survive the reader's re-truncation, every stored chunk sits at its descriptor's
  range and decodes to its chunk.
-/
import Bita.Model.Clone
import Bita.Proofs.HashTruncate
import Bita.Proofs.TryInitLemmas
import Bita.Proofs.WriterDescr

namespace Bita.Proofs.WriterOpen
open Bita Bita.Proto Bita.Spec Bita.Proofs.WriterDescr

/-- The recorded `application_version`, checked on the generated constant. -/
theorem version_utf8 : utf8Valid Gen.pkgVersion.toUTF8.toList = true := by decide +kernel

theorem configFromParams_paramsOf (cfg : Config) (n : Nat) (h : configAccepted cfg = true) :
    configFromParams (paramsOf cfg n) = .ok cfg := by
  -- the recorded algorithm code selects `cfg` again (by evaluation); what is left is the parameter check
  cases cfg <;> exact if_pos h

theorem paramsOf_hashLen (cfg : Config) (n : Nat) : (paramsOf cfg n).chunkHashLength = n := by
  cases cfg <;> rfl

theorem compressionFromDict_none :
    compressionFromDict [] ⟨Gen.enum_CompressionType_NONE, 0⟩ = .ok none := rfl

theorem compressionFromDict_brotli (l : Nat) :
    compressionFromDict [] ⟨Gen.enum_CompressionType_BROTLI, l⟩ =
      .ok (some (Gen.enum_CompressionType_BROTLI, l)) := rfl

theorem openDescr_checksum {n off : Nat} (hn : n ≤ 64) {cd : ChunkDescriptor} {h : Bytes}
    (hck : cd.checksum = hashTruncate h n) : (openDescr off cd).checksum = hashTruncate h n := by
  show hashTruncate cd.checksum _ = _
  rw [hck]
  exact hashTruncate_of_le _ _ (Nat.le_trans (hashTruncate_length_le h n) hn)

theorem archive_slice (hdr : Bytes) (f : Bytes → Bytes) (us : List Bytes) (j : Nat) (hj : j < us.length) :
    hdr.length + ((us.take j).map (fun u => (f u).length)).sum + (f us[j]).length
      ≤ (hdr ++ (us.map f).flatten).length ∧
    slice (hdr ++ (us.map f).flatten) (hdr.length + ((us.take j).map (fun u => (f u).length)).sum)
      (f us[j]).length = f us[j] := by
  induction us generalizing hdr j with
  | nil => simp at hj
  | cons u us ih =>
    cases j with
    | zero =>
      simp only [List.take_zero, List.map_nil, List.sum_nil, List.getElem_cons_zero, List.map_cons,
        List.flatten_cons, List.length_append, Nat.add_zero, slice, List.drop_left, List.take_left']
      exact ⟨by omega, trivial⟩
    | succ j =>
      have := ih (hdr ++ f u) j (by simpa using hj)
      simpa only [List.take_succ_cons, List.map_cons, List.sum_cons, List.getElem_cons_succ,
        List.flatten_cons, List.length_append, List.append_assoc, Nat.add_assoc] using this

theorem decodeChunk_stored {H : Bytes → Bytes} {comp : Bytes → Bytes}
    {decomp : Nat → Bytes → Nat → Option Bytes}
    (hcodec : ∀ algo x, decomp algo (comp x) x.length = some x)
    (writer : String) (o : CompressOpts) (c : Bytes) (d : Descr)
    (hck : d.checksum = hashTruncate (H c) o.hashLen) (hsz : d.sourceSize = c.length) :
    decodeChunk H decomp o.compression d (storedBytes writer (codecOf o comp) c) = some c := by
  have hfin : (if Gen.chunkLengthChecked = true ∧ c.length ≠ d.sourceSize then none
      else if hashTruncate (H c) d.checksum.length = d.checksum then some c else none) = some c := by
    rw [if_neg (fun hh => hh.2 hsz.symm), if_pos]
    rw [hck, hashTruncate_at_length]
  have hraw : ∀ a b, readerTakesRaw a b = decide (a = b) := fun _ _ => if_pos rfl
  unfold decodeChunk codecOf
  generalize o.compression = compr
  simp only [hraw, decide_eq_true_eq]
  rcases storedBytes_cases writer (if compr.isSome then comp else id) c with h | ⟨h, hlt⟩
  · rw [h, if_pos hsz, Option.bind_some]; exact hfin
  · rw [h, if_neg (by omega)]
    cases compr with
    | none => simp at hlt
    | some p =>
      obtain ⟨algo, lvl⟩ := p
      simp only [Option.isSome_some, if_true]
      rw [show decomp algo (comp c) d.sourceSize = some c from hsz ▸ hcodec algo c, Option.bind_some]
      exact hfin

theorem storedBytes_ne_nil (writer : String) (o : CompressOpts) {comp : Bytes → Bytes}
    (hne : ∀ x, x ≠ [] → comp x ≠ []) {c : Bytes} (hc : c ≠ []) :
    storedBytes writer (codecOf o comp) c ≠ [] := by
  rcases storedBytes_cases writer (codecOf o comp) c with h | ⟨h, -⟩
  · rwa [h]
  · rw [h, codecOf]
    split
    · exact hne c hc
    · exact hc

section
variable {H : Bytes → Bytes} {n : Nat} {f : Bytes → Bytes} {us : List Bytes}

theorem descr_spec {cd : ChunkDescriptor} (hd : cd ∈ descrFrom H n f 0 us) :
    ∃ u ∈ us, cd.checksum = hashTruncate (H u) n ∧ cd.sourceSize = u.length ∧
      cd.archiveSize = (f u).length ∧ ∀ hdr : Bytes,
        hdr.length + cd.archiveOffset + cd.archiveSize ≤ (hdr ++ (us.map f).flatten).length ∧
        slice (hdr ++ (us.map f).flatten) (hdr.length + cd.archiveOffset) cd.archiveSize = f u := by
  obtain ⟨j, hj, rfl⟩ := descr_mem hd
  exact ⟨us[j], List.getElem_mem hj, rfl, rfl, rfl, fun hdr => archive_slice hdr f us j hj⟩

theorem openDescr_spec (hn : n ≤ 64) (hdr : Bytes) {d : Descr}
    (hd : d ∈ (descrFrom H n f 0 us).map (openDescr hdr.length)) :
    ∃ u ∈ us, d.checksum = hashTruncate (H u) n ∧ d.sourceSize = u.length ∧
      d.archiveOffset + d.archiveSize ≤ (hdr ++ (us.map f).flatten).length ∧
      slice (hdr ++ (us.map f).flatten) d.archiveOffset d.archiveSize = f u := by
  obtain ⟨cd, hcd, rfl⟩ := List.mem_map.mp hd
  obtain ⟨u, hu, hck, hss, -, hsl⟩ := descr_spec hcd
  exact ⟨u, hu, openDescr_checksum hn hck, hss, hsl hdr⟩

end

end Bita.Proofs.WriterOpen
