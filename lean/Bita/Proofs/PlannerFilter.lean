/-
  `reorder_ops` and `strip_chunks_already_in_place` look at the scanned ("self") index only
  through the keys of the target index: entries of the scanned index under any other key can be
  dropped without changing the plan, nor what `reorder_in_place` does (`reorderInPlace_congr`).
  The end of the file says when two indexes built chunk by chunk agree on the kept keys
  (`addChunk_keep`, `keep_foldl_addChunk`): what the re-keying of `CloneNoJunk` needs.
-/
import Bita.Proofs.PlannerTrees

namespace Bita.Proofs.Planner
open Bita Bita.Spec Bita.Proofs.Exec

variable {κ : Type} [DecidableEq κ]
variable (p : κ → Bool)

def keep (ix : Index κ) : Index κ := ix.filter (fun e => p e.1)

section
variable {p}

theorem get_keep (self : Index κ) {k : κ} (hk : p k = true) : (keep p self).get k = self.get k :=
  (get_filter self p k).trans (if_pos hk)

theorem movableOf_keep {self tgt : Index κ} (h : ∀ k, tgt.contains k = true → p k = true) :
    movableOf (keep p self) tgt = movableOf self tgt := by
  unfold movableOf keep
  rw [List.filter_filter]
  apply List.filter_congr
  intro e _
  cases hc : tgt.contains e.1 with
  | false => simp
  | true => simp [h _ hc]

section
variable {self newOrder : Index κ} {lay : Layout κ} (hlay : ∀ e ∈ lay, p e.2 = true)
include hlay

/-- The DFS reads the scanned index only under keys of the layout. -/
theorem expand_keep (visited : List κ) (chunk : MoveChunk κ) :
    expand (keep p self) newOrder lay visited chunk = expand self newOrder lay visited chunk := by
  have hf : ∀ e ∈ clobE newOrder lay chunk.k, firstD (keep p self) e.2 = firstD self e.2 := by
    intro e he
    unfold firstD Index.firstOffset
    rw [get_keep self (hlay e (mem_clobE he).1)]
  rw [expand_eq, expand_eq]
  congr 1
  · exact List.map_congr_left fun e he => by unfold mkStore; rw [hf e (List.mem_filter.1 he).1]
  · congr 1
    exact List.map_congr_left fun e he => by unfold mkChild; rw [hf e (List.mem_filter.1 he).1]

theorem dfsRun_keep (n : Nat) (s : DfsState κ) :
    dfsRun (keep p self) newOrder lay n s = dfsRun self newOrder lay n s := by
  refine dfsRun_map (f := id) (fun s => ?_) n s
  unfold dfsStep
  simp only [expand_keep hlay, Option.map_id_fun, id]

end

theorem removeVisited_keep (self : Index κ) {vis : List κ} (hv : ∀ k ∈ vis, p k = true)
    (lay : Layout κ) : removeVisited (keep p self) vis lay = removeVisited self vis lay := by
  rw [removeVisited_eq, removeVisited_eq]
  refine List.filter_congr fun e _ => ?_
  rw [Bool.eq_iff_iff, List.all_eq_true, List.all_eq_true]
  exact forall₂_congr fun k hk => by rw [get_keep self (hv k hk)]

theorem treeStep_keep (self newOrder : Index κ) (fuel : Nat)
    {acc : List (ROp κ) × List κ × Layout κ} (hlay : ∀ e ∈ acc.2.2, p e.2 = true)
    {chunk : MoveChunk κ} (hc : p chunk.k = true) :
    treeStep (keep p self) newOrder fuel acc chunk = treeStep self newOrder fuel acc chunk ∧
      ∀ e ∈ (treeStep self newOrder fuel acc chunk).2.2, p e.2 = true := by
  unfold treeStep
  split
  · exact ⟨rfl, hlay⟩
  · dsimp only
    rw [dfsRun_keep hlay]
    rw [removeVisited_keep self (dfsRun_visited (U := (p · = true)) hlay fuel hc acc.1)]
    exact ⟨rfl, fun e he => hlay e ((removeVisited_sublist self _ acc.2.2).subset he)⟩

theorem foldl_treeStep_keep (self newOrder : Index κ) (fuel : Nat)
    {chunks : List (MoveChunk κ)} (hcs : ∀ c ∈ chunks, p c.k = true)
    {acc : List (ROp κ) × List κ × Layout κ} (hacc : ∀ e ∈ acc.2.2, p e.2 = true) :
    chunks.foldl (treeStep (keep p self) newOrder fuel) acc =
      chunks.foldl (treeStep self newOrder fuel) acc :=
  (List.foldl_rel (r := fun a b => a = b ∧ ∀ e ∈ b.2.2, p e.2 = true) ⟨rfl, hacc⟩
    fun c hc _ _ hb => hb.1 ▸ treeStep_keep self newOrder fuel hb.2 (hcs c hc)).1

end

theorem strip_keep (self target : Index κ) (h : ∀ e ∈ target, p e.1 = true) :
    (keep p self).strip target = self.strip target := by
  unfold Index.strip
  refine List.foldl_rel (r := Eq) rfl fun e he acc _ hacc => ?_
  subst hacc
  dsimp only
  rw [get_keep self (h e he)]

/-- **The plan ignores what the target does not name.** -/
theorem reorderOps_keep (self tgt : Index κ) (h : ∀ k, tgt.contains k = true → p k = true) :
    reorderOps (keep p self) tgt = reorderOps self tgt := by
  have hmov : ∀ e ∈ movableOf self tgt, p e.1 = true :=
    fun e he => h _ (Bool.and_eq_true_iff.1 (List.mem_filter.1 he).2).1
  rw [reorderOps_eq, reorderOps_eq]
  unfold layout0Of moveChunksOf
  rw [movableOf_keep h]
  refine congrArg (·.1) (foldl_treeStep_keep self tgt _ (fun c hc => ?_) ?_)
  · obtain ⟨e, he, rfl⟩ := List.mem_map.1 (mem_sortBySource.1 hc)
    exact hmov e he
  · exact forall_mem_foldl_insert entryOfLoc _ [] nofun hmov

variable {p}

theorem reorderInPlace_congr {st : OutSt κ} {ix1 ix2 : Index κ}
    (h : ∀ e ∈ st.index, p e.1 = true) (hix : keep p ix1 = keep p ix2) :
    st.reorderInPlace ix1 = st.reorderInPlace ix2 := by
  have hkeep : ∀ ixO, st.reorderInPlace (keep p ixO) = st.reorderInPlace ixO := by
    intro ixO
    have htgt : ∀ k, (ixO.strip st.index).1.contains k = true → p k = true := by
      intro k hk
      obtain ⟨e, he, rfl⟩ := List.mem_map.1 ((contains_iff_mem_keys _ _).1 hk)
      rw [strip_fst] at he
      obtain ⟨e0, he0, hs⟩ := List.mem_filterMap.1 he
      rw [stripEntry_key hs]
      exact h e0 he0
    rw [reorderInPlace_eq, reorderInPlace_eq, strip_keep p ixO st.index h,
      reorderOps_keep p ixO _ htgt]
  rw [← hkeep ix1, hix, hkeep]

omit [DecidableEq κ] in
theorem keep_map (g : κ × Loc → κ × Loc) (hg : ∀ e, (g e).1 = e.1) (ix : Index κ) :
    keep p (ix.map g) = (keep p ix).map g := by
  unfold keep
  rw [List.filter_map]
  exact congrArg _ (List.filter_congr fun e _ => by rw [Function.comp, hg])

theorem addChunk_keep (ix : Index κ) (k : κ) (sz : Nat) (offs : List Nat) :
    keep p (ix.addChunk k sz offs) =
      if p k = true then (keep p ix).addChunk k sz offs else keep p ix := by
  unfold Index.addChunk
  by_cases hk : p k = true
  · rw [if_pos hk, get_keep ix hk]
    cases ix.get k with
    | none => simp only [keep, List.filter_append, List.filter_cons, hk, if_true, List.filter_nil]
    | some l => exact keep_map _ (fun e => by split <;> rfl) ix
  · rw [if_neg hk]
    cases ix.get k with
    | none => simp [keep, List.filter_append, hk]
    | some l =>
      -- the rewritten entries have key `k` and are dropped
      rw [keep_map _ (fun e => by split <;> rfl) ix]
      refine (List.map_congr_left fun e he => ?_).trans (List.map_id _)
      exact if_neg fun h : e.1 = k => hk (h ▸ (List.mem_filter.1 he).2)

/-- Two indexes built from the same chunks under different keys agree on the kept keys, provided
each chunk has the same key in both or a dropped key in both: `CloneNoJunk` re-keys exactly the
chunks whose key is dropped, by keys that are dropped. -/
theorem keep_foldl_addChunk {α : Type} {k1 k2 : α → κ}
    {sz off : α → Nat} {xs : List α}
    (hx : ∀ x ∈ xs, k1 x = k2 x ∨ p (k1 x) = false ∧ p (k2 x) = false)
    {ix1 ix2 : Index κ} (h : keep p ix1 = keep p ix2) :
    keep p (xs.foldl (fun ix x => ix.addChunk (k1 x) (sz x) [off x]) ix1) =
      keep p (xs.foldl (fun ix x => ix.addChunk (k2 x) (sz x) [off x]) ix2) := by
  refine List.foldl_rel (r := fun a b => keep p a = keep p b) h fun x hxs ix1 ix2 h => ?_
  rw [addChunk_keep, addChunk_keep, h]
  obtain hk | ⟨h1, h2⟩ := hx x hxs
  · rw [hk]
  · rw [if_neg (ne_true_of_eq_false h1), if_neg (ne_true_of_eq_false h2)]

end Bita.Proofs.Planner
