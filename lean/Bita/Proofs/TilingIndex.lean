/-
  Chunk indexes as association lists, and the indexes of tilings: what `indexOf` holds for a
  key, what `strip` leaves of it (`dests`), which chunks have to move.  Planner and executor
  proofs both rest on these.
-/
import Bita.Proofs.ExecutorTiling

namespace Bita.Proofs.Exec
open Bita Bita.Spec

variable {κ : Type} [DecidableEq κ]

theorem get_eq_none_iff (ix : Index κ) (k : κ) : ix.get k = none ↔ k ∉ ix.keys := by
  rw [Index.get, Option.map_eq_none_iff, List.find?_eq_none, Index.keys, List.mem_map]
  exact ⟨fun h ⟨e, he, hk⟩ => h e he (decide_eq_true hk),
    fun h e he hk => h ⟨e, he, of_decide_eq_true hk⟩⟩

theorem contains_iff_mem_keys (ix : Index κ) (k : κ) : ix.contains k = true ↔ k ∈ ix.keys := by
  rw [Index.contains, Option.isSome_iff_ne_none, Ne, get_eq_none_iff, Classical.not_not]

theorem key_of_find? {ix : Index κ} {k : κ} {e : κ × Loc}
    (h : ix.find? (fun e => e.1 = k) = some e) : e.1 = k :=
  of_decide_eq_true (List.find?_some h :)

theorem mem_of_get {ix : Index κ} {k : κ} {l : Loc} (h : ix.get k = some l) : (k, l) ∈ ix := by
  obtain ⟨e, he, rfl⟩ := Option.map_eq_some_iff.1 h
  exact key_of_find? he ▸ List.mem_of_find?_eq_some he

theorem get_cons (e : κ × Loc) (ix : Index κ) (k : κ) :
    Index.get (e :: ix) k = if e.1 = k then some e.2 else ix.get k := by
  by_cases h : e.1 = k <;> simp [Index.get, h]

theorem get_of_mem {ix : Index κ} (hnd : ix.keys.Nodup) {k : κ} {l : Loc} (h : (k, l) ∈ ix) :
    ix.get k = some l := by
  induction ix with
  | nil => simp at h
  | cons e rest ih =>
    obtain ⟨h1, h2⟩ := List.nodup_cons.1 hnd
    rw [get_cons]
    rcases List.mem_cons.1 h with rfl | h
    · rw [if_pos rfl]
    · rw [if_neg (fun he => h1 (List.mem_map.2 ⟨_, h, he.symm⟩))]; exact ih h2 h

theorem get_filter (ix : Index κ) (p : κ → Bool) (k : κ) :
    Index.get (ix.filter (fun e => p e.1)) k = if p k then ix.get k else none := by
  induction ix with
  | nil => simp [Index.get]
  | cons e rest ih =>
    rw [List.filter_cons]
    by_cases hk : e.1 = k
    · subst hk; cases hp : p e.1 <;> simp [get_cons, ih, hp]
    · cases hp : p e.1 <;> simp [get_cons, ih, hk]

omit [DecidableEq κ] in
theorem mem_keys_filter (ix : Index κ) (p : κ → Bool) (k : κ) :
    k ∈ Index.keys (ix.filter (fun e => p e.1)) ↔ k ∈ ix.keys ∧ p k = true := by
  simp only [Index.keys, List.mem_map, List.mem_filter]
  constructor
  · rintro ⟨e, ⟨he, hp⟩, rfl⟩; exact ⟨⟨e, he, rfl⟩, hp⟩
  · rintro ⟨⟨e, he, rfl⟩, hp⟩; exact ⟨e, ⟨he, hp⟩, rfl⟩

theorem filterMap_get {f : κ × Loc → Option (κ × Loc)} (hf : ∀ e e', f e = some e' → e'.1 = e.1)
    {ix : Index κ} (hnd : ix.keys.Nodup) (k : κ) :
    Index.get (ix.filterMap f) k = (ix.get k).bind (fun l => (f (k, l)).map (·.2)) := by
  induction ix with
  | nil => rfl
  | cons e rest ih =>
    obtain ⟨h1, h2⟩ := List.nodup_cons.1 hnd
    rw [List.filterMap_cons, get_cons]
    by_cases hk : e.1 = k
    · subst hk
      have hrest : Index.get (rest.filterMap f) e.1 = none := by
        rw [ih h2, (get_eq_none_iff rest e.1).2 h1]
        rfl
      cases hfe : f e with
      | none => simp [hrest, hfe]
      | some e' => simp [get_cons, hf _ _ hfe, hfe]
    · rw [if_neg hk, ← ih h2]
      cases hfe : f e with
      | none => rfl
      | some e' => rw [get_cons, if_neg (by rw [hf _ _ hfe]; exact hk)]

theorem get_map (g : κ × Loc → κ × Loc) (hg : ∀ e, (g e).1 = e.1) (ix : Index κ) (k : κ) :
    Index.get (ix.map g) k = (ix.get k).map (fun l => (g (k, l)).2) := by
  simp only [Index.get, List.find?_map, Option.map_map, Function.comp_def, hg]
  exact Option.map_congr fun e he => by rw [← key_of_find? he]

theorem get_append (a b : Index κ) (k : κ) : Index.get (a ++ b) k = (a.get k).or (b.get k) := by
  rw [Index.get, List.find?_append, Option.map_or]; rfl

theorem addChunk_keys_nodup {ix : Index κ} (h : ix.keys.Nodup) (k : κ) (sz : Nat) (offs : List Nat) :
    (ix.addChunk k sz offs).keys.Nodup := by
  unfold Index.addChunk
  cases hg : ix.get k with
  | some l =>
    -- the update changes no key
    simp only [Index.keys, List.map_map]
    rwa [List.map_congr_left (g := (·.1)) fun e _ => by dsimp only [Function.comp]; split <;> rfl]
  | none =>
    simp only [Index.keys, List.map_append, List.map_cons, List.map_nil]
    rw [List.nodup_append]
    refine ⟨h, by simp, fun a ha b hb hab => (get_eq_none_iff ix k).1 hg ?_⟩
    rwa [← List.mem_singleton.1 hb, ← hab]

theorem addChunk_get (ix : Index κ) (k : κ) (sz : Nat) (offs : List Nat) (k' : κ) :
    (ix.addChunk k sz offs).get k' =
      if k' = k then
        (match ix.get k with
         | some l => some { l with offsets := offs.foldl (fun acc o => insertSorted o acc) l.offsets }
         | none => some { size := sz, offsets := offs.foldl (fun acc o => insertSorted o acc) [] })
      else ix.get k' := by
  unfold Index.addChunk
  cases hg : ix.get k with
  | none =>
    simp only
    rw [get_append, get_cons]
    by_cases h : k' = k
    · subst h; simp [hg]
    · rw [if_neg h, if_neg (fun h' => h h'.symm)]; simp [Index.get]
  | some l =>
    simp only
    rw [get_map _ (fun e => by split <;> rfl)]
    by_cases h : k' = k
    · subst h; simp [hg]
    · simp [h]

/-- Offsets of `k` in a placement list, in list order. -/
def offs (P : List (κ × Nat)) (k : κ) : List Nat := (P.filter (fun e => e.1 = k)).map (·.2)

theorem mem_offs {P : List (κ × Nat)} {k : κ} {o : Nat} : o ∈ offs P k ↔ (k, o) ∈ P := by
  simp [offs]

theorem offs_placements_eq_nil (c : κ → Bytes) (ts : List κ) (off : Nat) (k : κ) :
    offs (placements c ts off) k = [] ↔ k ∉ ts := by
  rw [List.eq_nil_iff_forall_not_mem]
  constructor
  · intro h hk
    obtain ⟨o, ho⟩ := exists_placement c ts off k hk
    exact h o (mem_offs.2 ho)
  · intro h o ho
    exact h (mem_placements (mem_offs.1 ho)).2.2

theorem offs_append_singleton (P : List (κ × Nat)) (e : κ × Nat) (k : κ) :
    offs (P ++ [e]) k = if e.1 = k then offs P k ++ [e.2] else offs P k := by
  by_cases h : e.1 = k <;> simp [offs, h]

theorem firstOff_eq_head? (P : List (κ × Nat)) (k : κ) : firstOff P k = (offs P k).head? := by
  simp [firstOff, offs, List.head?_map, List.head?_filter]

theorem firstOff_mem {P : List (κ × Nat)} {k : κ} {o : Nat} (h : firstOff P k = some o) :
    (k, o) ∈ P := by
  rw [firstOff_eq_head?] at h
  exact mem_offs.1 (List.mem_of_head? h)

theorem mem_dests {PO PN : List (κ × Nat)} {k : κ} {d : Nat} :
    d ∈ dests PO PN k ↔ (k, d) ∈ PN ∧ (k, d) ∉ PO := by
  simp only [dests, List.mem_map, List.mem_filter, Bool.and_eq_true, decide_eq_true_eq,
    Bool.not_eq_true', List.contains_eq_mem, decide_eq_false_iff_not]
  constructor
  · rintro ⟨⟨k', o'⟩, ⟨h1, rfl, h3⟩, rfl⟩; exact ⟨h1, h3⟩
  · rintro ⟨h1, h2⟩; exact ⟨(k, d), ⟨h1, rfl, h2⟩, rfl⟩

theorem kept_eq_dests (PO PN : List (κ × Nat)) (k : κ) :
    (offs PN k).filter (fun o => !(offs PO k).contains o) = dests PO PN k := by
  rw [dests, offs.eq_1 PN, List.filter_map, List.filter_filter]
  congr 1
  refine List.filter_congr fun e _ => ?_
  by_cases h : e.1 = k
  · subst h; simp [mem_offs]
  · simp [h]

theorem dests_of_not_mem {c : κ → Bytes} {O : List κ} {k : κ} (hk : k ∉ O) (P : List (κ × Nat)) :
    dests (placements c O 0) P k = offs P k := by
  rw [← kept_eq_dests, (offs_placements_eq_nil c O 0 k).2 hk]
  exact List.filter_eq_self.2 fun _ _ => rfl

/-- The chunks of `O` that still have to be written somewhere (as `safePlan` lists them). -/
def movable (c : κ → Bytes) (O N : List κ) : List κ :=
  O.eraseDups.filter (fun k => !(dests (placements c O 0) (placements c N 0) k).isEmpty)

theorem mem_movable {c : κ → Bytes} {O N : List κ} {k : κ} :
    k ∈ movable c O N ↔ k ∈ O ∧ dests (placements c O 0) (placements c N 0) k ≠ [] := by
  simp [movable, List.mem_eraseDups]

/-- The keys of the copies, in order (`copies` of `safePlan`). -/
def copiesOf (ops : List (ROp κ)) : List κ := (ops.filter isCopy).map opKey

/-- Per-operation part of `safePlan`. -/
def OpOk (c : κ → Bytes) (O N : List κ) : ROp κ → Prop
  | .copy k sz src d =>
    k ∈ movable c O N ∧ sz = (c k).length ∧ firstOff (placements c O 0) k = some src ∧
      d = dests (placements c O 0) (placements c N 0) k
  | .store k sz src =>
    k ∈ movable c O N ∧ sz = (c k).length ∧ firstOff (placements c O 0) k = some src

theorem copiesOf_sub_movable {c : κ → Bytes} {O N : List κ} {ops : List (ROp κ)}
    (hok : ∀ op ∈ ops, OpOk c O N op) : ∀ k ∈ copiesOf ops, k ∈ movable c O N := by
  intro k hk
  obtain ⟨op, hop, rfl⟩ := List.mem_map.1 hk
  have := hok op (List.mem_filter.1 hop).1
  cases op <;> exact this.1

theorem safePlan_iff (c : κ → Bytes) (O N : List κ) (ops : List (ROp κ)) :
    safePlan c O N ops = true ↔
      (∀ op ∈ ops, OpOk c O N op) ∧ (copiesOf ops).Nodup ∧
      (∀ k ∈ movable c O N, k ∈ copiesOf ops) ∧
      orderedFrom c (placements c O 0) (movable c O N) [] ops = true := by
  unfold safePlan
  simp only [Bool.and_eq_true, decide_eq_true_eq, and_assoc, List.all_eq_true,
    List.contains_iff_mem]
  refine and_congr (forall₂_congr fun op _ => ?_) Iff.rfl
  cases op <;> simp [OpOk, movable, and_assoc]

theorem insertSorted_append (o : Nat) (l : List Nat) (h : ∀ x ∈ l, x < o) :
    insertSorted o l = l ++ [o] := by
  induction l with
  | nil => rfl
  | cons x xs ih =>
    have hx : x < o := h x (by simp)
    rw [insertSorted, if_neg (by omega), if_neg (by omega), ih (fun y hy => h y (by simp [hy]))]
    rfl

/-- `ix` is the index of the placement list `P`. -/
structure IxRep (c : κ → Bytes) (ix : Index κ) (P : List (κ × Nat)) : Prop where
  nodup : ix.keys.Nodup
  get : ∀ k, ix.get k = if offs P k = [] then none else some ⟨(c k).length, offs P k⟩

theorem IxRep.step {c : κ → Bytes} {ix : Index κ} {P : List (κ × Nat)} {e : κ × Nat}
    (h : IxRep c ix P) (hlt : ∀ a ∈ P, a.2 < e.2) :
    IxRep c (ix.addChunk e.1 (c e.1).length [e.2]) (P ++ [e]) := by
  refine ⟨addChunk_keys_nodup h.nodup _ _ _, fun k => ?_⟩
  rw [addChunk_get, offs_append_singleton]
  by_cases hk : k = e.1
  · subst hk
    simp only [if_true, h.get]
    by_cases hnil : offs P e.1 = []
    · simp [hnil, insertSorted]
    · simp [hnil, insertSorted_append e.2 _ (fun x hx => hlt _ (mem_offs.1 hx))]
  · rw [if_neg hk, if_neg (Ne.symm hk), h.get]

section
variable {c : κ → Bytes} {ts : List κ} (hne : ∀ k ∈ ts, c k ≠ [])
include hne

theorem indexOf_rep : IxRep c (indexOf c ts) (placements c ts 0) := by
  suffices ∀ (P2 P1 : List (κ × Nat)) (ix : Index κ), IxRep c ix P1 →
      (P1 ++ P2).Pairwise (fun a b => a.2 < b.2) →
      IxRep c (P2.foldl (fun ix e => ix.addChunk e.1 (c e.1).length [e.2]) ix) (P1 ++ P2) from
    this _ [] [] ⟨List.nodup_nil, fun _ => rfl⟩ (placements_sorted c ts 0 hne)
  intro P2
  induction P2 with
  | nil => intro P1 ix h _; simpa using h
  | cons e rest ih =>
    intro P1 ix h hp
    have hlt := fun a ha => (List.pairwise_append.1 hp).2.2 a ha e List.mem_cons_self
    rw [List.append_cons] at hp ⊢
    exact ih _ _ (h.step hlt) hp

theorem indexOf_get (k : κ) :
    (indexOf c ts).get k =
      if k ∈ ts then some ⟨(c k).length, offs (placements c ts 0) k⟩ else none := by
  rw [(indexOf_rep hne).get]
  by_cases hk : k ∈ ts <;> simp [hk, offs_placements_eq_nil]

variable (c ts) in
theorem mem_indexOf (e : κ × Loc) (he : e ∈ indexOf c ts) :
    e.2 = ⟨(c e.1).length, offs (placements c ts 0) e.1⟩ ∧ e.1 ∈ ts := by
  have := get_of_mem (indexOf_rep hne).nodup he
  rw [indexOf_get hne, Option.ite_none_right_eq_some] at this
  exact ⟨(Option.some.inj this.2).symm, this.1⟩

theorem indexOf_firstOffset (k : κ) :
    (indexOf c ts).firstOffset k = firstOff (placements c ts 0) k := by
  rw [Index.firstOffset, indexOf_get hne, firstOff_eq_head?]
  by_cases hk : k ∈ ts
  · simp [hk]
  · simp [hk, (offs_placements_eq_nil c ts 0 k).2 hk]

theorem keys_indexOf (k : κ) : k ∈ (indexOf c ts).keys ↔ k ∈ ts := by
  rw [← contains_iff_mem_keys, Index.contains, indexOf_get hne]
  by_cases hk : k ∈ ts
  · rw [if_pos hk]; exact iff_of_true rfl hk
  · rw [if_neg hk]; exact iff_of_false nofun hk

theorem indexOf_get_of_mem {k : κ} (hk : k ∈ ts) :
    (indexOf c ts).get k = some ⟨(c k).length, offs (placements c ts 0) k⟩ :=
  (indexOf_get hne k).trans (if_pos hk)

end

/-- What `strip` does to one target entry. -/
def stripEntry (self : Index κ) (e : κ × Loc) : Option (κ × Loc) :=
  match self.get e.1 with
  | some l =>
    let kept := e.2.offsets.filter (fun o => !l.offsets.contains o)
    if kept.isEmpty then none else some (e.1, { e.2 with offsets := kept })
  | none => some e

theorem strip_fst (self target : Index κ) :
    (self.strip target).1 = target.filterMap (stripEntry self) := by
  unfold Index.strip
  show _ = (([], 0, 0) : Index κ × Nat × Nat).1 ++ _
  generalize (([], 0, 0) : Index κ × Nat × Nat) = acc
  induction target generalizing acc with
  | nil => exact (List.append_nil _).symm
  | cons e t ih =>
    rw [List.foldl_cons, ih, List.filterMap_cons]
    obtain ⟨out, cnt, tot⟩ := acc
    simp only [stripEntry]
    cases self.get e.1 with
    | none => simp
    | some l =>
      simp only
      split <;> simp

theorem stripEntry_key {self : Index κ} {e e' : κ × Loc} (h : stripEntry self e = some e') :
    e'.1 = e.1 := by
  revert h
  fun_cases stripEntry self e
  · nofun
  · rintro ⟨⟩; rfl
  · rintro ⟨⟩; rfl

section
variable {c : κ → Bytes} {O N : List κ} (hO : ∀ k ∈ O, c k ≠ [])
include hO

theorem stripEntry_indexOf {k : κ} {P : List (κ × Nat)} (hk : offs P k ≠ []) :
    stripEntry (indexOf c O) (k, ⟨(c k).length, offs P k⟩) =
      if dests (placements c O 0) P k = [] then none
      else some (k, ⟨(c k).length, dests (placements c O 0) P k⟩) := by
  unfold stripEntry
  rw [indexOf_get hO]
  by_cases hkO : k ∈ O
  · simp only [hkO, if_true, kept_eq_dests, List.isEmpty_iff]
  · rw [if_neg hkO, dests_of_not_mem hkO, if_neg hk]

variable (hN : ∀ k ∈ N, c k ≠ [])
include hN

theorem strip_get (k : κ) :
    ((indexOf c O).strip (indexOf c N)).1.get k =
      if dests (placements c O 0) (placements c N 0) k = [] then none
      else some ⟨(c k).length, dests (placements c O 0) (placements c N 0) k⟩ := by
  rw [strip_fst, filterMap_get (fun _ _ => stripEntry_key) (indexOf_rep hN).nodup,
    indexOf_get hN]
  by_cases hkN : k ∈ N
  · rw [if_pos hkN, Option.bind_some,
      stripEntry_indexOf hO fun h => (offs_placements_eq_nil c N 0 k).1 h hkN]
    exact apply_ite (Option.map Prod.snd) _ _ _
  · have : dests (placements c O 0) (placements c N 0) k = [] := by
      rw [← kept_eq_dests, (offs_placements_eq_nil c N 0 k).2 hkN]; rfl
    rw [if_neg hkN, if_pos this]; rfl

end

theorem filterMap_congr_mem {α β : Type} {f g : α → Option β} {l : List α}
    (h : ∀ x ∈ l, f x = g x) : l.filterMap f = l.filterMap g := by
  induction l with
  | nil => rfl
  | cons a l ih =>
    rw [List.filterMap_cons, List.filterMap_cons, h a (by simp), ih fun x hx => h x (by simp [hx])]

/-- After the copies the clone index holds what `O` lacks.  Both sides are a `filterMap` over
`indexOf c N`, compared entry by entry: `strip` keeps a key of `O` only if it is movable, and then
it is among the copies. -/
theorem target_filter (c : κ → Bytes) (O N : List κ) (hne : ∀ k, k ∈ O ∨ k ∈ N → c k ≠ [])
    (copies : List κ) (h1 : ∀ k ∈ copies, k ∈ O) (h2 : ∀ k ∈ movable c O N, k ∈ copies) :
    ((indexOf c O).strip (indexOf c N)).1.filter (fun e => !copies.contains e.1) =
      (indexOf c N).filter (fun e => !O.contains e.1) := by
  rw [strip_fst, List.filter_filterMap, ← List.filterMap_eq_filter]
  refine filterMap_congr_mem fun e he => ?_
  obtain ⟨k, l⟩ := e
  obtain ⟨hl, hkN⟩ := mem_indexOf c N (fun k hk => hne k (Or.inr hk)) _ he
  simp only at hl hkN; subst hl
  have hoffs : offs (placements c N 0) k ≠ [] := fun h => (offs_placements_eq_nil c N 0 k).1 h hkN
  rw [stripEntry_indexOf (fun k hk => hne k (Or.inl hk)) hoffs]
  by_cases hk : k ∈ O
  · by_cases hd : dests (placements c O 0) (placements c N 0) k = []
    · simp [hd, hk, Option.guard]
    · have := h2 k (mem_movable.2 ⟨hk, hd⟩)
      simp [hd, hk, Option.filter, Option.guard, this]
  · have : k ∉ copies := fun h => hk (h1 _ h)
    simp [hk, Option.filter, Option.guard, this, dests_of_not_mem hk, hoffs]

theorem orderedFrom_copy {c : κ → Bytes} {PO : List (κ × Nat)} {mv seen : List κ} {z : κ}
    {sz src : Nat} {dest : List Nat} {ops : List (ROp κ)} :
    orderedFrom c PO mv seen (.copy z sz src dest :: ops) = true ↔
      (∀ d ∈ dest, ∀ y ∈ mv, y = z ∨ y ∈ seen ∨ ∀ fy, firstOff PO y = some fy →
        overlap fy (c y).length d (c z).length = false) ∧
      orderedFrom c PO mv (z :: seen) ops = true := by
  simp only [orderedFrom, opKey, Bool.and_eq_true, List.all_eq_true, Bool.or_eq_true,
    decide_eq_true_eq, List.contains_eq_mem, or_assoc, Bool.not_eq_true']
  refine and_congr_left' (forall₂_congr fun d _ => forall₂_congr fun y _ =>
    or_congr_right (or_congr_right ?_))
  cases firstOff PO y <;> simp

theorem reorderInPlace_eq (st : OutSt κ) (ixO : Index κ) :
    st.reorderInPlace ixO =
      (ExecSt.run ⟨{ st with index := (ixO.strip st.index).1 }, [], 0⟩
          (reorderOps ixO (ixO.strip st.index).1)).map
        (fun fin => (fin.out, fin.moved + (ixO.strip st.index).2.2)) := by
  unfold OutSt.reorderInPlace
  generalize ixO.strip st.index = t
  obtain ⟨a, b, d⟩ := t
  simp only
  cases h : ExecSt.run (κ := κ) ⟨{ st with index := a }, [], 0⟩ (reorderOps ixO a) <;> simp

end Bita.Proofs.Exec
