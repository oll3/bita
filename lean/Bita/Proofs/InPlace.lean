/-
  End-to-end statements about the output of a clone at the level of tilings (C02, C03, C13): the
  state a plain clone starts from (`feedInv_nil`) and the state `reorder_in_place` leaves
  (`reorder_feedInv`) are feed states, and `FeedInv` says the rest.
-/
import Bita.Proofs.PlannerTrees
import Bita.Proofs.ExecutorRun
import Bita.Proofs.InPlaceFeed

namespace Bita.Proofs
open Bita Bita.Spec

variable {κ : Type} [DecidableEq κ]

namespace Exec

theorem feedInv_nil (c : κ → Bytes) (N : List κ) (p : Bytes) :
    FeedInv c [] N ⟨p, indexOf c N, []⟩ [] :=
  ⟨(List.filter_eq_self.2 (fun _ _ => rfl)).symm, fun _ _ => nofun, fun _ => nofun,
    [], List.nodup_nil, fun _ => nofun, rfl⟩

theorem reorder_feedInv (c : κ → Bytes) (O N : List κ) (hne : ∀ k, k ∈ O ∨ k ∈ N → c k ≠ []) :
    ∃ st1 ret, (OutSt.mk (fileOf c O) (indexOf c N) []).reorderInPlace (indexOf c O) = some (st1, ret) ∧
      FeedInv c O N st1 O := by
  have hs := planner_sound c O N hne
  obtain ⟨fin, hfin, h1, h2, _, h4⟩ := executor_sound c O N hne _ hs
  obtain ⟨hok, hnd, _, _⟩ := (safePlan_iff c O N _).1 hs
  exact ⟨fin.out, _, by rw [reorderInPlace_eq, hfin]; rfl, h1, h2, fun _ h => h, _, hnd,
    fun k hk => (mem_movable.1 (copiesOf_sub_movable hok k hk)).1, h4⟩

end Exec

open Exec

/-- Plain clone (no in-place seed): whatever the output held before (`p`, any bytes, any
length), feeding any sequence of chunks that contains every source chunk - seeds first, in any
order, related or not, then what the archive delivers - and resizing yields the source. -/
theorem clone_exact (content : κ → Bytes) (N : List κ) (p : Bytes)
    (hne : ∀ k, k ∈ N → content k ≠ [])
    (ks : List κ) (hall : ∀ k ∈ N, k ∈ ks) :
    resize (feedAll content ⟨p, indexOf content N, []⟩ ks).file (fileOf content N).length
      = fileOf content N :=
  (feedInv_nil content N p).exact hne ks fun k hk => hall k ((keys_indexOf hne k).1 hk)

/-- In-place update: for every prior tiling `O` and target `N`, `reorder_in_place` succeeds, what
remains to be fetched are exactly target chunks absent from `O`, and feeding any chunk sequence
that contains them (seeds, then the archive) and resizing yields the source. -/
theorem inplace_exact (content : κ → Bytes) (O N : List κ)
    (hne : ∀ k, k ∈ O ∨ k ∈ N → content k ≠ []) :
    ∃ st1 ret, (OutSt.mk (fileOf content O) (indexOf content N) []).reorderInPlace (indexOf content O)
        = some (st1, ret) ∧
      (∀ k, k ∈ st1.index.keys ↔ (k ∈ N ∧ k ∉ O)) ∧
      ∀ ks, (∀ k ∈ st1.index.keys, k ∈ ks) →
        resize (feedAll content st1 ks).file (fileOf content N).length = fileOf content N := by
  have hN : ∀ k ∈ N, content k ≠ [] := fun k hk => hne k (Or.inr hk)
  obtain ⟨st1, ret, hre, hf⟩ := reorder_feedInv content O N hne
  exact ⟨st1, ret, hre, hf.mem_keys hN, hf.exact hN⟩

/-- Every write of an in-place clone (reordering, then any feeds): is one source chunk's bytes
at one of its source offsets; no location is written twice; a location that already held the
right chunk is not written; nothing is written at or beyond the source length. -/
theorem write_log_exact (content : κ → Bytes) (O N : List κ)
    (hne : ∀ k, k ∈ O ∨ k ∈ N → content k ≠ []) (ks : List κ) :
    ∀ st1 ret, (OutSt.mk (fileOf content O) (indexOf content N) []).reorderInPlace (indexOf content O)
        = some (st1, ret) →
      let W := writesOf (feedAll content st1 ks).log
      (∀ w ∈ W, ∃ k, (k, w.1) ∈ placements content N 0 ∧ w.2 = content k) ∧
      (W.map (·.1)).Nodup ∧
      (∀ w ∈ W, ∀ k, (k, w.1) ∈ placements content N 0 → (k, w.1) ∉ placements content O 0) ∧
      (∀ w ∈ W, w.1 + w.2.length ≤ (fileOf content N).length) := by
  intro st1 ret hrun
  have hN : ∀ k ∈ N, content k ≠ [] := fun k hk => hne k (Or.inr hk)
  obtain ⟨st1', ret', hre, hf⟩ := reorder_feedInv content O N hne
  cases hre.symm.trans hrun
  exact (feedAll_inv hN ks hf).writes hN

/-- The same for a plain clone into an output with arbitrary prior bytes. -/
theorem write_log_exact_plain (content : κ → Bytes) (N : List κ) (p : Bytes)
    (hne : ∀ k, k ∈ N → content k ≠ []) (ks : List κ) :
    let W := writesOf (feedAll content ⟨p, indexOf content N, []⟩ ks).log
    (∀ w ∈ W, ∃ k, (k, w.1) ∈ placements content N 0 ∧ w.2 = content k) ∧
    (W.map (·.1)).Nodup ∧
    (∀ w ∈ W, w.1 + w.2.length ≤ (fileOf content N).length) := by
  obtain ⟨a, b, _, d⟩ := (feedAll_inv hne ks (feedInv_nil content N p)).writes hne
  exact ⟨a, b, d⟩

end Bita.Proofs
