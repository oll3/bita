/-
  The theorems about `Clone.run` with the wider escape clause (a collision with a source chunk,
  or two colliding chunks of the prior output): each is its `_nojunk` form weakened.
-/
import Bita.Proofs.CloneNoJunk

namespace Bita.Proofs
open Bita Bita.Spec

/-- **Soundness.**  The archive header is genuine (it opens to `a`, which describes `src`); the
chunk reader may answer every request with *arbitrary* bytes; seeds and prior output are
arbitrary.  A clone that reports success has produced the source - or a collision of the
truncated strong hash is exhibited. -/
theorem clone_sound (H : Bytes → Bytes) (hH : ∀ x, (H x).length = 64)
    (decomp : Nat → Bytes → Nat → Option Bytes) (features : List Nat)
    (readAt : Nat → Nat → Option Bytes) (readChunks : List (Nat × Nat) → List (Option Bytes))
    (opts : CloneOpts) (prior : Bytes) (seeds : List Bytes)
    (a : Archive) (src : Bytes) (cks : List Bytes)
    (hinit : tryInit H features readAt = .ok a) (hd : Describes H a src cks)
    (hitems : ∀ ranges, (readChunks ranges).length = ranges.length) :
    let r := Clone.run H decomp features readAt readChunks opts prior seeds
    r.result = .ok →
      (setLen r.output src.length = src ∧ (opts.blockDev = false → r.output = src)) ∨
      Collision H a.hashLength cks ∨
      (opts.seedOutput = true ∧ SelfCollision H a.hashLength a.config prior) :=
  fun hr => (clone_sound_nojunk H hH decomp features readAt readChunks opts prior seeds a src cks hinit hd
    hitems hr).imp_right Or.inl

/-- **Completeness.**  With an honest reader over archive bytes that store the chunks, no pin
mismatch and (for a block device) enough room, the clone succeeds (and by soundness yields the
source) - or a collision is exhibited.  `--verify-output` is allowed on a block device longer than
the source as well; this rests on the F17 repair (`Gen.verifyHashesSourceSizeOnly`): the
verification pass hashes the first `source_total_size` bytes of the output only, where a hash of
the whole device would never match. -/
theorem clone_complete (H : Bytes → Bytes) (hH : ∀ x, (H x).length = 64)
    (decomp : Nat → Bytes → Nat → Option Bytes) (features : List Nat)
    (archive : Bytes) (opts : CloneOpts) (prior : Bytes) (seeds : List Bytes)
    (a : Archive) (src : Bytes) (cks : List Bytes)
    (hinit : tryInit H features (honestReadAt archive) = .ok a) (hd : Describes H a src cks)
    (hs : Stored H decomp a archive)
    (hpin : ∀ pin, opts.headerPin = some pin → pin = a.headerChecksum)
    (hdev : opts.blockDev = true → src.length ≤ prior.length) :
    let r := Clone.run H decomp features (honestReadAt archive) (honestReadChunks archive) opts prior seeds
    (r.result = .ok ∧ setLen r.output src.length = src ∧ (opts.blockDev = false → r.output = src)) ∨
      Collision H a.hashLength cks ∨
      (opts.seedOutput = true ∧ SelfCollision H a.hashLength a.config prior) :=
  (clone_complete_nojunk H hH decomp features archive opts prior seeds a src cks hinit hd hs hpin
    hdev).imp_right Or.inl

/-- **Fetch exactness** (C06).  A successful clone has asked the archive reader for the
pre-header, the rest of the header, and then - in one `read_chunks` call - exactly the stored
ranges of the descriptors (in descriptor order, each once) whose key the scans of the prior
output (when used as seed) and of the seeds did not find.  Nothing else. -/
theorem fetch_exact (H : Bytes → Bytes) (hH : ∀ x, (H x).length = 64)
    (decomp : Nat → Bytes → Nat → Option Bytes) (features : List Nat)
    (readAt : Nat → Nat → Option Bytes) (readChunks : List (Nat × Nat) → List (Option Bytes))
    (opts : CloneOpts) (prior : Bytes) (seeds : List Bytes)
    (a : Archive) (src : Bytes) (cks : List Bytes)
    (hinit : tryInit H features readAt = .ok a) (hd : Describes H a src cks)
    (hitems : ∀ ranges, (readChunks ranges).length = ranges.length) :
    let r := Clone.run H decomp features readAt readChunks opts prior seeds
    r.result = .ok →
      r.requests = [ArchReq.readAt 0 Gen.preHeaderSize,
                    ArchReq.readAt Gen.preHeaderSize (a.headerSize - Gen.preHeaderSize),
                    ArchReq.readChunks ((a.chunks.filter (fun d =>
                      !(foundKeys H a opts prior seeds).contains (hashTruncate d.checksum a.hashLength))).map
                      (fun d => (d.archiveOffset, d.archiveSize)))] ∨
      Collision H a.hashLength cks ∨
      (opts.seedOutput = true ∧ SelfCollision H a.hashLength a.config prior) :=
  fun hr => (fetch_exact_nojunk H hH decomp features readAt readChunks opts prior seeds a src cks hinit hd
    hitems hr).imp_right Or.inl

/-- **Write log of a clone.**  The archive header is genuine (it opens to `a`, which describes
`src` cut into `cks`); reader, codec, seeds and prior output are arbitrary, and so is the
result (a clone that ends in an error has obeyed the rule up to there).  Every write is one
source chunk's bytes at one of its offsets in the source; no offset is written twice; nothing is
written at or beyond the source length; in place, an offset where the scan of the prior output
found that very chunk is not written - or a collision is exhibited. -/
theorem clone_write_log_exact (H : Bytes → Bytes) (hH : ∀ x, (H x).length = 64)
    (decomp : Nat → Bytes → Nat → Option Bytes) (features : List Nat)
    (readAt : Nat → Nat → Option Bytes) (readChunks : List (Nat × Nat) → List (Option Bytes))
    (opts : CloneOpts) (prior : Bytes) (seeds : List Bytes)
    (a : Archive) (src : Bytes) (cks : List Bytes)
    (hinit : tryInit H features readAt = .ok a) (hd : Describes H a src cks) :
    let W := writesOf (Clone.run H decomp features readAt readChunks opts prior seeds).log
    ((∀ w ∈ W, w ∈ chunkPlacements cks 0) ∧
     (W.map (·.1)).Nodup ∧
     (∀ w ∈ W, w.1 + w.2.length ≤ src.length) ∧
     (opts.seedOutput = true → ∀ w ∈ W, ∀ c ∈ chunkAll a.config prior,
        c.1 = w.1 → slice prior c.1 c.2 ≠ w.2)) ∨
    Collision H a.hashLength cks ∨
    (opts.seedOutput = true ∧ SelfCollision H a.hashLength a.config prior) :=
  (clone_write_log_exact_nojunk H hH decomp features readAt readChunks opts prior seeds a src cks hinit
    hd).imp_right Or.inl

end Bita.Proofs
