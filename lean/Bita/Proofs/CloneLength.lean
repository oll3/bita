/-
  The output never shrinks while a clone feeds it: reordering in place and every feed leave a
  file at least as long as before.  (Needed for `--verify-output` on a block device, which hashes
  the first `source_total_size` bytes of a device that may be longer.)
-/
import Bita.Proofs.CloneRun
import Bita.Proofs.ExecutorRun

namespace Bita.Proofs
open Bita Bita.Spec Bita.Proofs.Exec

variable {κ : Type} [DecidableEq κ]

theorem feed_length_le (st : OutSt κ) (k : κ) (data : Bytes) :
    st.file.length ≤ (st.feed k data).1.file.length := by
  fun_cases OutSt.feed st k data with
  | case1 loc => exact writeOffsets_length_le data loc.offsets { st with index := st.index.remove k }
  | case2 => exact Nat.le_refl _

theorem execStep_length_le {s s' : ExecSt κ} {op : ROp κ} (h : s.step op = some s') :
    s.out.file.length ≤ s'.out.file.length := by
  revert h
  -- the cases of `ExecSt.step`: a copy writes what the store or a read gave it, a read may fail,
  -- a store leaves the file alone
  fun_cases ExecSt.step s op with
  | case1 => rintro ⟨⟩; exact writeOffsets_length_le ..
  | case3 k size source dest hstore data hread o1 =>
    rintro ⟨⟩; exact writeOffsets_length_le data dest o1
  | case2 | case5 => nofun
  | case4 | case6 => rintro ⟨⟩; exact Nat.le_refl _

theorem execRun_length_le (ops : List (ROp κ)) {s s' : ExecSt κ} (h : s.run ops = some s') :
    s.out.file.length ≤ s'.out.file.length := by
  induction ops generalizing s with
  | nil => cases h; exact Nat.le_refl _
  | cons op ops ih =>
    obtain ⟨s1, hs, h⟩ := Option.bind_eq_some_iff.1 h
    exact Nat.le_trans (execStep_length_le hs) (ih h)

theorem reorderInPlace_length_le {st : OutSt κ} {oi : Index κ} {r : OutSt κ × Nat}
    (h : st.reorderInPlace oi = some r) : st.file.length ≤ r.1.file.length := by
  rw [reorderInPlace_eq, Option.map_eq_some_iff] at h
  obtain ⟨fin, hfin, rfl⟩ := h
  exact execRun_length_le _ hfin

theorem cloneSt1_length_le {H : Bytes → Bytes} {a : Archive} {opts : CloneOpts} {prior : Bytes}
    {ix : Index Bytes} {st1 : OutSt Bytes} (h : cloneSt1 H a opts prior ix = some st1) :
    prior.length ≤ st1.file.length := by
  unfold cloneSt1 at h
  split at h
  · obtain ⟨r, hr, rfl⟩ := Option.map_eq_some_iff.1 h
    exact reorderInPlace_length_le hr
  · cases h; exact Nat.le_refl _

theorem feedAll_length_le (content : κ → Bytes) (ks : List κ) (st : OutSt κ) :
    st.file.length ≤ (feedAll content st ks).file.length := by
  induction ks generalizing st with
  | nil => exact Nat.le_refl _
  | cons k ks ih => exact Nat.le_trans (feed_length_le st k _) (ih _)

end Bita.Proofs
