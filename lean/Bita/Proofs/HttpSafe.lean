/-
  The HTTP chunk reader against an arbitrary server: it reaches no panic branch, every request it
  forms ends at the end of a listed chunk, and of each answer only the bytes that were asked for
  matter (`httpReadChunks_any`: C15 T3, C08 surplus).
-/
import Bita.Proofs.HttpStep

namespace Bita.Proofs
open Bita Bita.Spec

/-- What every issued request `(offset, size)` satisfies, relative to the listed chunks `L`.  The
second conjunct (it does not start before all of them) is there for C15 T3, which states it. -/
def ReqOK (L : List ChunkOffset) (q : Nat × Nat) : Prop :=
  (∃ c ∈ L, q.1 + q.2 = c.stop) ∧ (∃ c ∈ L, c.offset ≤ q.1) ∧ 1 ≤ q.2

/-- The states in which `CR.run` awaits a response: a request open inside the run `c :: r` (as in
`HttpCore`) that ends where a listed chunk ends, with listed chunks after the run. -/
inductive Good (L : List ChunkOffset) : CR → Prop
  | opened {c : ChunkOffset} {r rest : List ChunkOffset} {buf : Bytes} {off size rl : Nat} :
      (∀ x ∈ rest, x ∈ L) → buf.length + size = total (c :: r) → buf.length < c.size →
      ReqOK L (off, size) →
      Good L ⟨c :: r ++ rest, buf, (c :: r).length, some (off, size, rl)⟩

variable {L : List ChunkOffset}

theorem ReqOK.advance {off size n : Nat} (h : ReqOK L (off, size))
    (hn : 0 < size - n) : ReqOK L (off + n, size - n) :=
  ⟨h.1.imp fun _ he => ⟨he.1, by have := he.2; dsimp only at this ⊢; omega⟩,
    h.2.1.imp fun _ he => ⟨he.1, Nat.le_trans he.2 (Nat.le_add_right _ _)⟩, hn⟩

theorem recv_take_congr {b b' : Bytes} {size : Nat} (h : b.take size = b'.take size) (x : Resp) :
    (recv b x).take size = (recv b' x).take size := by
  cases x with
  | refuse => rfl
  | full fr => exact h
  | part n fr cut =>
    simp only [recv, List.take_take, Nat.min_comm size n]
    rw [← List.take_take, h, List.take_take]

theorem good_ensure (retry : Nat) {c : ChunkOffset} {cs : List ChunkOffset}
    (adj : Nat) (h : ∀ x ∈ c :: cs, x ∈ L) (hc : 1 ≤ c.size) :
    Good L (CR.ensureReq retry ⟨c :: cs, [], adj, none⟩) := by
  obtain ⟨r, rs, hshape⟩ := maximalRuns_cons_shape c cs
  obtain ⟨hflat, hruns, hsep⟩ := maximalRuns_spec (c :: cs)
  rw [hshape] at hflat hruns hsep
  rw [List.flatten_cons] at hflat
  have hcont := (hruns (c :: r) (by simp)).2
  rw [← hflat] at h ⊢
  rw [ensureReq_run hcont
    (separated_head (fun x hx => (hruns x (List.mem_cons_of_mem _ hx)).1) hsep)]
  exact .opened (fun x hx => h x (List.mem_append_right _ hx)) (by simp) hc
    ⟨⟨_, h _ (List.mem_append_left _ (List.getLast_mem (List.cons_ne_nil c r))),
      (contiguous_getLast_stop hcont).symm⟩,
    ⟨c, h c (by simp), Nat.le_refl _⟩, Nat.le_trans hc (Nat.le_add_right _ _)⟩

/-- What `run_any` says of the outputs of the reader with two servers. -/
def Same (L : List ChunkOffset) (o o' : Out) : Prop :=
  o = o' ∧ Item.panic ∉ o.items ∧ ∀ q ∈ o.reqs, ReqOK L q

theorem Same.last {its : List Item} {q : Nat × Nat} {it : Item}
    (hp : Item.panic ∉ its) (hq : ReqOK L q) (hit : it ≠ Item.panic) :
    Same L ⟨its ++ [it], [q]⟩ ⟨its ++ [it], [q]⟩ :=
  ⟨rfl, fun h => (List.mem_append.1 h).elim hp fun h => hit (List.mem_singleton.1 h).symm,
    fun _ h => List.mem_singleton.1 h ▸ hq⟩

theorem Same.prepend {its : List Item} {q : Nat × Nat} {o o' : Out}
    (h : Same L o o') (hp : Item.panic ∉ its) (hq : ReqOK L q) :
    Same L ⟨its ++ o.items, q :: o.reqs⟩ ⟨its ++ o'.items, q :: o'.reqs⟩ :=
  ⟨by rw [h.1], fun hm => (List.mem_append.1 hm).elim hp h.2.1,
    fun q' hm => (List.mem_cons.1 hm).elim (· ▸ hq) (h.2.2 q')⟩

section any
variable {serve serve' : Nat → Nat → Bytes} {retry : Nat}

/-- `hopen` is `run_any` for this script: its induction hypothesis inside `run_any`, itself after. -/
theorem same_closed (hL : ∀ x ∈ L, 1 ≤ x.size) {script : List Resp}
    (hopen : ∀ st, Good L st →
      Same L (CR.run serve retry script st) (CR.run serve' retry script st))
    (chunks : List ChunkOffset) (adj : Nat) (h : ∀ x ∈ chunks, x ∈ L) :
    Same L (CR.run serve retry script ⟨chunks, [], adj, none⟩)
      (CR.run serve' retry script ⟨chunks, [], adj, none⟩) := by
  cases chunks with
  | nil => simp [Same, run_nil_chunks]
  | cons c cs =>
    have hc := hL c (h c (by simp))
    rw [run_ensure (serve := serve) hc, run_ensure (serve := serve') hc]
    exact hopen _ (good_ensure retry adj h hc)

/-- Two servers whose answers agree on the bytes that were asked for are indistinguishable to the
reader, which neither panics nor asks for anything but the tail of a run of listed chunks. -/
theorem run_any (hL : ∀ x ∈ L, 1 ≤ x.size)
    (hagree : ∀ off size, ReqOK L (off, size) →
      (serve off size).take size = (serve' off size).take size) :
    ∀ (script : List Resp) (st : CR), Good L st →
      Same L (CR.run serve retry script st) (CR.run serve' retry script st) := by
  intro script
  induction script with
  | nil =>
    rintro _ ⟨-, -, hc, hok⟩
    rw [List.cons_append, run_open (serve := serve) [] hc hok.2.2,
      run_open (serve := serve') [] hc hok.2.2]
    exact .last (its := []) nofun hok nofun
  | cons x s ih =>
    rintro _ (@⟨c, r, rest, buf, off, size, rl, h, hb, hc, hok⟩)
    have hrest : ∀ x ∈ rest.head?, 1 ≤ x.size := fun x hx => hL x (h x (List.mem_of_mem_head? hx))
    -- the bytes `b` that count are the same for both servers, and so is what `drain` does
    generalize hbdef : (recv (serve off size) x).take size = b
    rw [run_step hrest hb hc hbdef,
      run_step hrest hb hc ((recv_take_congr (hagree off size hok) x).symm.trans hbdef)]
    have hbl : b.length ≤ size := hbdef ▸ List.length_take_le _ _
    obtain ⟨done, rem, -, hdr, -, hinv, hshort⟩ := drain_run hrest
      (off + b.length, size - b.length, rl) (List.cons_ne_nil c r) (balance_append hb hbl)
    have hp := pieces_no_panic done (buf ++ b)
    rw [hdr]
    cases rem with
    | nil =>
      -- the run is complete: on with the chunks after it
      rw [List.eq_nil_of_length_eq_zero (Nat.add_eq_zero_iff.1 hinv).1]
      exact (same_closed hL ih rest 0 h).prepend hp hok
    | cons c' r' =>
      -- part of the run stays missing: the cases of `afterFeed` on `bodyDone`, as in
      -- `run_eq_runSpec` (`HttpResume`)
      cases respCut x with
      | false => exact .last hp hok nofun
      | true =>
        cases rl with
        | zero => exact .last hp hok nofun
        | succ rl =>
          exact (ih _ (.opened (rl := rl) h hinv (hshort c' rfl)
            (hok.advance (missing_pos hinv (hshort c' rfl))))).prepend hp hok

/-- `run_any` from the start of `read_chunks`: what C15 T3 and C08 (surplus) say of the chunk reader
are its three parts. -/
theorem httpReadChunks_any (hL : ∀ x ∈ L, 1 ≤ x.size)
    (hagree : ∀ off size, ReqOK L (off, size) →
      (serve off size).take size = (serve' off size).take size) (script : List Resp) :
    httpReadChunks serve retry script L = httpReadChunks serve' retry script L ∧
    Item.panic ∉ (httpReadChunks serve retry script L).items ∧
    ∀ q ∈ (httpReadChunks serve retry script L).reqs, ReqOK L q :=
  same_closed hL (run_any hL hagree script) L 0 fun _ hx => hx

end any

end Bita.Proofs
