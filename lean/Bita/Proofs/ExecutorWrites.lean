/-
  Writes to the output file.  `writeAt` and `readAt` pointwise; then `writeOffsets`: what a batch of
  writes of one chunk does to the file, index and log - for a tiling, `writeOffsets_tiling`; the
  executor's `copy` and a feed both are such a batch followed by taking the chunk out of the clone
  index (`remove_filter_not_mem`).
-/
import Bita.Proofs.TilingIndex

namespace Bita.Proofs.Exec
open Bita Bita.Spec

theorem writeAt_eq (f : Bytes) (o : Nat) (b : Bytes) :
    writeAt f o b = (f ++ List.replicate (o - f.length) 0).take o ++ b ++ f.drop (o + b.length) := by
  have hd : (f ++ List.replicate (o - f.length) 0).drop (o + b.length) = f.drop (o + b.length) := by
    rw [List.drop_append, List.drop_eq_nil_of_le (as := List.replicate _ _)
      (by rw [List.length_replicate]; omega), List.append_nil]
  unfold writeAt
  split
  · exact congrArg _ hd
  · rw [Nat.sub_eq_zero_of_le (by omega), List.replicate_zero, List.append_nil]

theorem length_take_pad (f : Bytes) (o : Nat) :
    ((f ++ List.replicate (o - f.length) (0 : UInt8)).take o).length = o := by
  rw [List.length_take, List.length_append, List.length_replicate]; omega

theorem length_writeAt (f : Bytes) (o : Nat) (b : Bytes) :
    (writeAt f o b).length = max f.length (o + b.length) := by
  rw [writeAt_eq, List.length_append, List.length_append, length_take_pad, List.length_drop]
  omega

theorem getElem?_writeAt (f : Bytes) (o : Nat) (b : Bytes) (i : Nat) :
    (writeAt f o b)[i]? =
      if i < o then (if i < f.length then f[i]? else some 0)
      else if i < o + b.length then b[i - o]? else f[i]? := by
  rw [writeAt_eq, List.append_assoc, List.getElem?_append, length_take_pad]
  by_cases h1 : i < o
  · rw [if_pos h1, if_pos h1, List.getElem?_take_of_lt h1, List.getElem?_append]
    by_cases h2 : i < f.length
    · rw [if_pos h2, if_pos h2]
    · rw [if_neg h2, if_neg h2, List.getElem?_replicate, if_pos (by omega)]
  · rw [if_neg h1, if_neg h1, List.getElem?_append]
    by_cases h2 : i < o + b.length
    · rw [if_pos h2, if_pos (by omega)]
    · rw [if_neg h2, if_neg (by omega), List.getElem?_drop]
      exact congrArg (f[·]?) (by omega)

theorem slice_writeAt_same (f : Bytes) (o : Nat) (b : Bytes) :
    slice (writeAt f o b) o b.length = b := by
  rw [writeAt_eq, slice, List.append_assoc, List.drop_left' (length_take_pad f o),
    List.take_left' rfl]

theorem slice_writeAt_disjoint {f : Bytes} {o : Nat} {b : Bytes} {a la : Nat}
    (h : a + la ≤ o ∨ o + b.length ≤ a) (hin : a + la ≤ f.length) :
    slice (writeAt f o b) a la = slice f a la := by
  apply List.ext_getElem?
  intro i
  rw [getElem?_slice, getElem?_slice, getElem?_writeAt]
  by_cases hi : i < la
  · rw [if_pos hi, if_pos hi]
    rcases h with h | h
    · rw [if_pos (by omega), if_pos (by omega)]
    · rw [if_neg (by omega), if_neg (by omega)]
  · rw [if_neg hi, if_neg hi]

/-- A region that holds `la` bytes lies inside the file. -/
theorem slice_in_bounds (f : Bytes) (a la : Nat) (c : Bytes)
    (hc : slice f a la = c) (hl : c.length = la) (hne : c ≠ []) : a + la ≤ f.length := by
  have := length_slice f a la
  rw [hc, hl] at this
  have : la ≠ 0 := by
    intro h0; subst h0; exact hne (List.eq_nil_of_length_eq_zero hl)
  omega

theorem slice_writeAt_keep {f : Bytes} {o : Nat} {b : Bytes} {a : Nat} {c : Bytes}
    (hc : slice f a c.length = c) (h : a + c.length ≤ o ∨ o + b.length ≤ a) :
    slice (writeAt f o b) a c.length = c := by
  by_cases h0 : c = []
  · subst h0; rfl
  · rw [slice_writeAt_disjoint h (slice_in_bounds f a c.length c hc rfl h0), hc]

theorem readAt_eq {f : Bytes} {a la : Nat} (h : a + la ≤ f.length) :
    readAt f a la = some (slice f a la) := by
  simp [readAt, h]

variable {κ : Type}

theorem writesOf_append (a b : List IoOp) : writesOf (a ++ b) = writesOf a ++ writesOf b := by
  induction a with
  | nil => rfl
  | cons x xs ih => cases x <;> simp [writesOf, ih]

theorem writeOffsets_nil (st : OutSt κ) (data : Bytes) : st.writeOffsets [] data = st := rfl

theorem writeOffsets_cons (st : OutSt κ) (d : Nat) (ds : List Nat) (data : Bytes) :
    st.writeOffsets (d :: ds) data =
      ({ st with file := writeAt st.file d data, log := st.log ++ [IoOp.write d data] } : OutSt κ).writeOffsets ds data := rfl

section
variable (data : Bytes) (ds : List Nat) (st : OutSt κ)

theorem writeOffsets_index : (st.writeOffsets ds data).index = st.index := by
  induction ds generalizing st with
  | nil => rfl
  | cons d ds ih => rw [writeOffsets_cons, ih]

theorem writeOffsets_writes :
    writesOf (st.writeOffsets ds data).log = writesOf st.log ++ ds.map (fun d => (d, data)) := by
  induction ds generalizing st with
  | nil => simp [writeOffsets_nil]
  | cons d ds ih =>
    rw [writeOffsets_cons, ih]
    simp [writesOf_append, writesOf]

theorem writeOffsets_length_le : st.file.length ≤ (st.writeOffsets ds data).file.length := by
  induction ds generalizing st with
  | nil => exact Nat.le_refl _
  | cons d ds ih =>
    rw [writeOffsets_cons]
    exact Nat.le_trans (length_writeAt st.file d data ▸ Nat.le_max_left ..) (ih _)

end

theorem writeOffsets_keep {data : Bytes} {a : Nat} {c : Bytes} {ds : List Nat} {st : OutSt κ}
    (hc : slice st.file a c.length = c) (hd : ∀ d ∈ ds, a + c.length ≤ d ∨ d + data.length ≤ a) :
    slice (st.writeOffsets ds data).file a c.length = c := by
  induction ds generalizing st with
  | nil => exact hc
  | cons d ds ih =>
    rw [writeOffsets_cons]
    exact ih (slice_writeAt_keep hc (hd d List.mem_cons_self))
      fun d' hd' => hd d' (List.mem_cons_of_mem _ hd')

/-- Each single write either is to the placement `e` or, placements being disjoint, leaves it as
it was. -/
theorem writeOffsets_tiling {c : κ → Bytes} {N : List κ} {z : κ} {ds : List Nat}
    (hds : ∀ d ∈ ds, (z, d) ∈ placements c N 0) {st : OutSt κ} {e : κ × Nat}
    (he : e ∈ placements c N 0)
    (h : (e.1 = z ∧ e.2 ∈ ds) ∨ slice st.file e.2 (c e.1).length = c e.1) :
    slice (st.writeOffsets ds (c z)).file e.2 (c e.1).length = c e.1 := by
  induction ds generalizing st with
  | nil => exact h.resolve_left fun h => nomatch h.2
  | cons d ds ih =>
    rw [writeOffsets_cons]
    refine ih (fun d' hd' => hds d' (List.mem_cons_of_mem _ hd')) ?_
    by_cases hed : e = (z, d)
    · subst hed
      exact Or.inr (slice_writeAt_same _ _ _)
    · have hdis := (placements_disjoint c N 0 e he _ (hds d List.mem_cons_self)).resolve_left hed
      exact h.imp (fun ⟨hz, hm⟩ => ⟨hz, (List.mem_cons.1 hm).resolve_left fun h => hed (Prod.ext hz h)⟩)
        fun h => slice_writeAt_keep h hdis

theorem remove_filter_not_mem [DecidableEq κ] (ix : Index κ) {L L' : List κ} {z : κ}
    (h : ∀ k, k ∈ L' ↔ k ∈ L ∨ k = z) :
    Index.remove (ix.filter fun e => !L.contains e.1) z = ix.filter fun e => !L'.contains e.1 := by
  rw [Index.remove, List.filter_filter]
  refine List.filter_congr fun e _ => ?_
  by_cases hz : e.1 = z <;> simp [h, hz]

end Bita.Proofs.Exec
