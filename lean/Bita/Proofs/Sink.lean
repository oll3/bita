/-
  C15, decompression: the sink of `decompress` never holds more than the size declared for the chunk,
  whatever the decompressor writes (bomb-proof by construction, not by trusting the codec): a run is
  the writes in order up to the first that does not fit (`sink_runFrom`).  The whole-output model the
  clone theorems use, `limitedDecomp`, hands on the codec's output iff it is within the declared size
  (`limitedDecomp_of_raw`, from the limit read from the source).  At the end, on the side of
  `Model/Clone`: a decompressor that keeps to the declared size (`DecompBounded`, as `limitedDecomp`
  does) makes `decodeChunk` hand on no more than the declared or the stored size
  (`decodeChunk_bounded`).
-/
import Bita.Model.Sink
import Bita.Model.Clone

namespace Bita.Proofs
open Bita

/-- Only the room `r = limit - buf.length` matters (the model's own subtraction, so nothing is assumed
of the starting state). -/
theorem sink_runFrom (ps : List Bytes) : ∀ (s : Sink) (i r : Nat), s.limit - s.buf.length = r →
    (ps.flatten.length ≤ r ∧ Sink.runFrom s ps i = .ok (s.buf ++ ps.flatten)) ∨
    (r < ps.flatten.length ∧
      ∃ k, k < ps.length ∧ (ps.take k).flatten.length ≤ r ∧ r < (ps.take (k + 1)).flatten.length ∧
        Sink.runFrom s ps i = .error (i + k)) := by
  induction ps with
  | nil => intro s i r _; exact .inl ⟨Nat.zero_le _, by rw [Sink.runFrom, List.flatten_nil, List.append_nil]⟩
  | cons p ps ih =>
    intro s i r hr
    unfold Sink.runFrom Sink.write
    rw [hr, List.flatten_cons, List.length_append]
    by_cases hc : p.length > r
    · rw [if_pos hc]
      exact .inr ⟨Nat.lt_add_right _ hc, 0, Nat.zero_lt_succ _, Nat.zero_le _, by simpa using hc, rfl⟩
    · rw [if_neg hc]
      dsimp only
      -- the write fits: `r = p.length + r'`, with `r'` the room it leaves
      obtain ⟨r', rfl⟩ := Nat.exists_eq_add_of_le (Nat.le_of_not_lt hc)
      have hr' : s.limit - (s.buf ++ p).length = r' := by
        rw [List.length_append, ← Nat.sub_sub, hr, Nat.add_sub_cancel_left]
      rcases ih ⟨s.buf ++ p, s.limit⟩ (i + 1) r' hr' with ⟨hfit, hrun⟩ | ⟨hover, k, hk, h1, h2, hrun⟩
      · exact .inl ⟨Nat.add_le_add_left hfit _, by rw [hrun, List.append_assoc]⟩
      · refine .inr ⟨Nat.add_lt_add_left hover _, k + 1, Nat.succ_lt_succ hk, ?_, ?_,
          by rw [hrun, Nat.add_right_comm, Nat.add_assoc]⟩
        all_goals rw [List.take_succ_cons, List.flatten_cons, List.length_append]
        · exact Nat.add_le_add_left h1 _
        · exact Nat.add_lt_add_left h2 _

theorem sink_statesFrom_le (ps : List Bytes) : ∀ (s : Sink), s.buf.length ≤ s.limit →
    ∀ n ∈ Sink.statesFrom s ps, n ≤ s.limit := by
  induction ps with
  | nil => intro s _ n hn; cases hn
  | cons p ps ih =>
    intro s hs n hn
    unfold Sink.statesFrom Sink.write at hn
    by_cases hc : p.length > s.limit - s.buf.length
    · rw [if_pos hc] at hn; cases hn
    · rw [if_neg hc] at hn
      have hs' : (s.buf ++ p).length ≤ s.limit :=
        List.length_append ▸ Nat.add_le_of_le_sub' hs (Nat.le_of_not_lt hc)
      rcases List.mem_cons.1 hn with h | h
      · exact h ▸ hs'
      · exact ih ⟨s.buf ++ p, s.limit⟩ hs' n h

theorem sink_states_le (limit : Nat) (pieces : List Bytes) : ∀ n ∈ Sink.states limit pieces, n ≤ limit :=
  sink_statesFrom_le pieces ⟨[], limit⟩ (Nat.zero_le _)

theorem sink_run_ok_iff (limit : Nat) (pieces : List Bytes) (out : Bytes) :
    Sink.run limit pieces = .ok out ↔ (pieces.flatten.length ≤ limit ∧ out = pieces.flatten) := by
  unfold Sink.run
  rcases sink_runFrom pieces ⟨[], limit⟩ 0 limit rfl with ⟨hfit, hr⟩ | ⟨hover, _, _, _, _, hr⟩
  · rw [hr]
    exact ⟨fun h => ⟨hfit, by cases h; rfl⟩, fun h => by rw [h.2]; rfl⟩
  · rw [hr]
    exact ⟨fun h => (nomatch h), fun h => absurd h.1 (Nat.not_le_of_lt hover)⟩

/-- A run fails at the first write with which the total would exceed the limit: everything before
it had been accepted (and fits). -/
theorem sink_run_error (limit : Nat) (pieces : List Bytes) (i : Nat) (h : Sink.run limit pieces = .error i) :
    i < pieces.length ∧ ((pieces.take i).flatten.length ≤ limit) ∧ limit < (pieces.take (i + 1)).flatten.length := by
  unfold Sink.run at h
  rcases sink_runFrom pieces ⟨[], limit⟩ 0 limit rfl with ⟨_, hr⟩ | ⟨_, k, hk, h1, h2, hr⟩
  · rw [hr] at h; cases h
  · rw [hr, Nat.zero_add] at h; cases h; exact ⟨hk, h1, h2⟩

theorem limitedDecomp_of_raw {raw : Nat → Bytes → Option Bytes} {algo : Nat} {stored out : Bytes} (declared : Nat)
    (h : raw algo stored = some out) :
    limitedDecomp raw algo stored declared = if declared < out.length then none else some out := by
  -- the output limit is in the source (F11)
  have hfact : Gen.decompressOutputLimited = true := by decide
  unfold limitedDecomp
  rw [h, Option.bind_some]
  simp only [hfact, true_and]

/-- What the reader may assume of its decompressor: never more than the declared size. -/
def DecompBounded (decomp : Nat → Bytes → Nat → Option Bytes) : Prop :=
  ∀ algo stored declared out, decomp algo stored declared = some out → out.length ≤ declared

theorem limitedDecomp_bounded (raw : Nat → Bytes → Option Bytes) : DecompBounded (limitedDecomp raw) := by
  intro algo stored declared out h
  cases hr : raw algo stored with
  | none => rw [limitedDecomp, hr] at h; cases h
  | some o =>
    rw [limitedDecomp_of_raw declared hr] at h
    obtain ⟨hlt, ⟨⟩⟩ := Option.ite_none_left_eq_some.mp h
    exact Nat.le_of_not_lt hlt

theorem decodeChunk_bounded (H : Bytes → Bytes) (decomp : Nat → Bytes → Nat → Option Bytes)
    (hb : DecompBounded decomp) (compr : Compr) (d : Descr) (stored chunk : Bytes)
    (h : decodeChunk H decomp compr d stored = some chunk) :
    chunk.length ≤ max d.sourceSize stored.length := by
  unfold decodeChunk at h
  -- the chunk handed on is the raw one (whatever further tests it passed)
  obtain ⟨c, hraw, hc⟩ := Option.bind_eq_some_iff.1 h
  obtain ⟨-, hc⟩ := Option.ite_none_left_eq_some.1 hc
  obtain ⟨-, ⟨⟩⟩ := Option.ite_none_right_eq_some.1 hc
  split at hraw
  · cases hraw; exact Nat.le_max_right _ _
  · match compr, hraw with
    | none, hraw => cases hraw; exact Nat.le_max_right _ _
    | some (algo, _), hraw => exact Nat.le_trans (hb algo stored _ _ hraw) (Nat.le_max_left _ _)

end Bita.Proofs
