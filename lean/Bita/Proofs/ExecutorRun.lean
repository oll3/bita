/-
  The executor invariant: while a safe plan runs, every target placement that is in place or
  whose chunk has been copied holds its chunk, every movable chunk not yet copied can still be
  read (from its first location, or from the store once something was written over it), and
  clone index and write log are what the copies so far make them.  Executing a safe plan moves
  every reusable chunk into place (`executor_sound`: C03 T2, C13).
-/
import Bita.Proofs.ExecutorWrites

namespace Bita.Proofs.Exec
open Bita Bita.Spec

variable {κ : Type} [DecidableEq κ]

section
variable (c : κ → Bytes) (O N : List κ)

/-- Output and store after a prefix of the plan whose operations have keys `seen` and whose copies
have keys `copied` (in plan order). -/
structure Inv (o : OutSt κ) (store : List (κ × Bytes)) (seen copied : List κ) : Prop where
  len : (fileOf c O).length ≤ o.file.length
  done : ∀ e ∈ placements c N 0, (e ∈ placements c O 0 ∨ e.1 ∈ copied) →
    slice o.file e.2 (c e.1).length = c e.1
  mov : ∀ y ∈ movable c O N, y ∉ copied → ∀ fy, firstOff (placements c O 0) y = some fy →
    store.find? (fun e => e.1 = y) = some (y, c y) ∨
    (store.find? (fun e => e.1 = y) = none ∧ y ∉ seen ∧ slice o.file fy (c y).length = c y)
  index : o.index =
    ((indexOf c O).strip (indexOf c N)).1.filter (fun e => !copied.contains e.1)
  writes : writesOf o.log = copied.flatMap fun k =>
    (dests (placements c O 0) (placements c N 0) k).map fun d => (d, c k)

/-- The destinations `dest` of a copy of `z` are apart from the source of every other chunk of
`mv` that has been neither copied nor buffered (the condition of `orderedFrom` for one copy). -/
def Clear (PO : List (κ × Nat)) (mv seen : List κ) (z : κ) (dest : List Nat) : Prop :=
  ∀ y ∈ mv, y ≠ z → y ∉ seen → ∀ fy, firstOff PO y = some fy →
    ∀ d ∈ dest, fy + (c y).length ≤ d ∨ d + (c z).length ≤ fy

variable {c O N} {o : OutSt κ} {store : List (κ × Bytes)} {s : ExecSt κ} {seen copied : List κ}

theorem Inv.src_in_bounds (hinv : Inv c O N o store seen copied) {y : κ} {fy : Nat}
    (hfy : firstOff (placements c O 0) y = some fy) : fy + (c y).length ≤ o.file.length :=
  Nat.le_trans (by simpa using (mem_placements (firstOff_mem hfy)).2.1) hinv.len

theorem Inv.log_read (hinv : Inv c O N o store seen copied) (a n : Nat) :
    Inv c O N { o with log := o.log ++ [IoOp.read a n] } store seen copied :=
  ⟨hinv.len, hinv.done, hinv.mov, hinv.index,
    by simpa [writesOf_append, writesOf] using hinv.writes⟩

theorem inv_copy (hinv : Inv c O N o store seen copied) {z : κ}
    (hord : Clear c (placements c O 0) (movable c O N) seen z
      (dests (placements c O 0) (placements c N 0) z))
    {store' : List (κ × Bytes)}
    -- the store may change in what it holds for `z`: `copy z` drops a buffered `z`
    (hst : ∀ y, y ≠ z → store'.find? (fun e => e.1 = y) = store.find? (fun e => e.1 = y)) :
    Inv c O N
      { (o.writeOffsets (dests (placements c O 0) (placements c N 0) z) (c z)) with
        index := (o.writeOffsets (dests (placements c O 0) (placements c N 0) z) (c z)).index.remove z }
      store' (z :: seen) (copied ++ [z]) := by
  refine ⟨Nat.le_trans hinv.len (writeOffsets_length_le ..), fun e he hcase => ?_,
    fun y hy hyc fy hfy => ?_, ?_, ?_⟩
  · refine writeOffsets_tiling (fun d hd => (mem_dests.1 hd).1) he ?_
    by_cases hold : e ∈ placements c O 0 ∨ e.1 ∈ copied
    · exact Or.inr (hinv.done e he hold)
    · -- a placement of `z` that was not in place is one of its destinations
      rw [List.mem_append, List.mem_singleton, ← or_assoc] at hcase
      have hz := hcase.resolve_left hold
      exact Or.inl ⟨hz, mem_dests.2 (hz ▸ ⟨he, fun h => hold (Or.inl h)⟩)⟩
  · obtain ⟨hyc, hyz⟩ : y ∉ copied ∧ y ≠ z := by simpa using hyc
    rw [hst y hyz]
    exact (hinv.mov y hy hyc fy hfy).imp_right fun ⟨h1, h2, h3⟩ =>
      ⟨h1, fun h => (List.mem_cons.1 h).elim hyz h2, writeOffsets_keep h3 (hord y hy hyz h2 fy hfy)⟩
  · show Index.remove _ z = _
    rw [writeOffsets_index, hinv.index]
    exact remove_filter_not_mem _ (by simp)
  · show writesOf (OutSt.writeOffsets _ _ _).log = _
    rw [writeOffsets_writes, hinv.writes, List.flatMap_append, List.flatMap_singleton]

theorem step_copy (hinv : Inv c O N s.out s.store seen copied)
    {z : κ} {sz src : Nat} {dest : List Nat} (hok : OpOk c O N (.copy z sz src dest))
    (hzc : z ∉ copied) (hord : Clear c (placements c O 0) (movable c O N) seen z dest) :
    ∃ s', s.step (.copy z sz src dest) = some s' ∧
      Inv c O N s'.out s'.store (z :: seen) (copied ++ [z]) := by
  obtain ⟨hm, rfl, hsrc, rfl⟩ := hok
  rcases hinv.mov z hm hzc src hsrc with h | ⟨h1, _, h3⟩
  · simp only [ExecSt.step, h]
    refine ⟨_, rfl, inv_copy hinv hord fun y hyz => ?_⟩
    rw [List.find?_filter]
    refine congrArg (List.find? · s.store) (funext fun a => ?_)
    by_cases ha : a.1 = y <;> simp [ha, hyz]
  · have hr : readAt s.out.file src (c z).length = some (c z) := by
      rw [readAt_eq (hinv.src_in_bounds hsrc), h3]
    simp only [ExecSt.step, h1, hr]
    exact ⟨_, rfl, inv_copy (hinv.log_read src _) hord fun _ _ => rfl⟩

theorem step_store (hinv : Inv c O N s.out s.store seen copied)
    {y : κ} {sz src : Nat} (hok : OpOk c O N (.store y sz src)) :
    ∃ s', s.step (.store y sz src) = some s' ∧ Inv c O N s'.out s'.store (y :: seen) copied := by
  obtain ⟨hm, rfl, hsrc⟩ := hok
  cases hf : s.store.find? (fun e => e.1 = y) with
  | some p =>
    simp only [ExecSt.step, hf, Option.isSome_some, if_true]
    refine ⟨s, rfl, hinv.len, hinv.done, fun y' hy' hyc fy hfy => ?_, hinv.index, hinv.writes⟩
    refine (hinv.mov y' hy' hyc fy hfy).imp_right fun ⟨h1, h2, h3⟩ =>
      ⟨h1, fun h => (List.mem_cons.1 h).elim (fun hyy => ?_) h2, h3⟩
    rw [hyy, hf] at h1; cases h1
  | none =>
    have hr := readAt_eq (hinv.src_in_bounds hsrc)
    simp only [ExecSt.step, hf, hr, Option.isSome_none]
    refine ⟨_, rfl, hinv.len, hinv.done, fun y' hy' hyc fy hfy => ?_, hinv.index,
      (hinv.log_read src (c y).length).writes⟩
    show (s.store ++ [(y, slice s.out.file src (c y).length)]).find? _ = _ ∨ _
    rw [List.find?_append]
    rcases hinv.mov y' hy' hyc fy hfy with h | ⟨h1, h2, h3⟩
    · exact Or.inl (by rw [h]; rfl)
    · rw [h1, Option.none_or]
      by_cases hyy : y = y'
      · -- the chunk read is the one the file still held at its source
        subst hyy
        cases hsrc.symm.trans hfy
        exact Or.inl (by simp [h3])
      · exact Or.inr ⟨by simp [hyy], fun h => (List.mem_cons.1 h).elim (hyy ∘ Eq.symm) h2, h3⟩

theorem ordered_copy {PO : List (κ × Nat)} {mv : List κ} {z : κ} {sz src : Nat}
    {dest : List Nat} {ops : List (ROp κ)}
    (h : orderedFrom c PO mv seen (.copy z sz src dest :: ops) = true) :
    Clear c PO mv seen z dest ∧ orderedFrom c PO mv (z :: seen) ops = true := by
  obtain ⟨h1, h2⟩ := orderedFrom_copy.1 h
  refine ⟨fun y hy hyz hys fy hfy d hd => ?_, h2⟩
  have := ((h1 d hd y hy).resolve_left hyz).resolve_left hys fy hfy
  simp only [overlap, Bool.and_eq_false_iff, decide_eq_false_iff_not] at this
  omega

theorem run_inv (ops : List (ROp κ)) (hinv : Inv c O N s.out s.store seen copied)
    (hok : ∀ op ∈ ops, OpOk c O N op) (hnd : (copied ++ copiesOf ops).Nodup)
    (hord : orderedFrom c (placements c O 0) (movable c O N) seen ops = true) :
    ∃ fin seen', s.run ops = some fin ∧
      Inv c O N fin.out fin.store seen' (copied ++ copiesOf ops) := by
  induction ops generalizing s seen copied with
  | nil => exact ⟨s, seen, rfl, (List.append_nil copied).symm ▸ hinv⟩
  | cons op ops ih =>
    have hok' : ∀ op ∈ ops, OpOk c O N op := fun o ho => hok o (List.mem_cons_of_mem _ ho)
    cases op with
    | copy z sz src dest =>
      have hnd' : (copied ++ [z] ++ copiesOf ops).Nodup := by rwa [List.append_assoc]
      obtain ⟨ho1, ho2⟩ := ordered_copy hord
      obtain ⟨s', hs', hinv'⟩ := step_copy hinv (hok _ List.mem_cons_self)
        (fun hz => (List.nodup_append.1 hnd).2.2 z hz z List.mem_cons_self rfl) ho1
      obtain ⟨fin, seen', hfin, hfinv⟩ := ih hinv' hok' hnd' ho2
      refine ⟨fin, seen', by simp only [ExecSt.run, hs', Option.bind_some, hfin], ?_⟩
      rwa [List.append_assoc] at hfinv
    | store y sz src =>
      obtain ⟨s', hs', hinv'⟩ := step_store hinv (hok _ List.mem_cons_self)
      obtain ⟨fin, seen', hfin, hfinv⟩ := ih hinv' hok' hnd
        (by simpa [orderedFrom, opKey] using hord)
      exact ⟨fin, seen', by simp only [ExecSt.run, hs', Option.bind_some, hfin], hfinv⟩

end

end Bita.Proofs.Exec

namespace Bita.Proofs
open Bita Bita.Spec

variable {κ : Type} [DecidableEq κ]

open Exec in
/-- Executing any safe plan on a file holding tiling `O`, with the stripped target index:
it never fails; what is left in the clone index are exactly the target chunks absent from `O`
(with all their target offsets); every target placement of a chunk that occurs in `O` holds that
chunk's bytes afterwards; and the writes are exactly the missing placements of the moved
chunks, each once. -/
theorem executor_sound (content : κ → Bytes) (O N : List κ)
    (hne : ∀ k, k ∈ O ∨ k ∈ N → content k ≠ [])
    (ops : List (ROp κ)) (hs : safePlan content O N ops = true) :
    let PO := placements content O 0
    let PN := placements content N 0
    let target := ((indexOf content O).strip (indexOf content N)).1
    ∃ fin, ExecSt.run ⟨⟨fileOf content O, target, []⟩, [], 0⟩ ops = some fin ∧
      fin.out.index = (indexOf content N).filter (fun e => !O.contains e.1) ∧
      (∀ e ∈ PN, e.1 ∈ O → slice fin.out.file e.2 (content e.1).length = content e.1) ∧
      (fileOf content O).length ≤ fin.out.file.length ∧
      writesOf fin.out.log =
        ((ops.filter isCopy).map opKey).flatMap (fun k => (dests PO PN k).map (fun d => (d, content k))) := by
  intro PO PN target
  obtain ⟨hok, hnd, hall, hord⟩ := (safePlan_iff content O N ops).1 hs
  have hinv : Inv content O N ⟨fileOf content O, target, []⟩ [] [] [] :=
    ⟨Nat.le_refl _, fun e _ h => slice_fileOf content [] O e (h.resolve_right List.not_mem_nil),
      fun y _ _ fy hfy =>
        Or.inr ⟨rfl, List.not_mem_nil, slice_fileOf content [] O (y, fy) (firstOff_mem hfy)⟩,
      (List.filter_eq_self.2 fun _ _ => rfl).symm, rfl⟩
  obtain ⟨fin, seen', hfin, hf⟩ :=
    run_inv (s := ⟨_, [], 0⟩) ops hinv hok hnd hord
  rw [List.nil_append] at hf
  refine ⟨fin, hfin, ?_, fun e he heO => hf.done e he ?_, hf.len, hf.writes⟩
  · rw [hf.index]
    exact target_filter content O N hne _
      (fun k hk => (mem_movable.1 (copiesOf_sub_movable hok k hk)).1) hall
  · -- a placement of a chunk of `O` that is not in place is a destination of a movable chunk
    refine Classical.byContradiction fun h => h (Or.inr (hall e.1 (mem_movable.2
      ⟨heO, List.ne_nil_of_mem (mem_dests.2 ⟨he, fun hpo => h (Or.inl hpo)⟩)⟩)))

end Bita.Proofs
