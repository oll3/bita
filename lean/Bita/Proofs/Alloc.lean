/-
  C15, "never allocates without bound beyond sizes the format legitimately declares for a chunk":
  the header reads (`read_at` with a size taken from an unverified pre-header) of both readers.
  The bounds hold *because* the guards are in the source (`Gen.*` facts, read on every run).
-/
import Bita.Model.Readers

namespace Bita.Proofs
open Bita

theorem ioCapGrow_le (size len : Nat) (h : len < size) :
    len < ioCapGrow size len ∧ ioCapGrow size len ≤ size ∧ ioCapGrow size len ≤ len + Gen.ioMaxPreallocate := by
  unfold ioCapGrow
  have hfact : Gen.ioGrowBounded = true := by decide
  have hp : 0 < Gen.ioMaxPreallocate := by decide
  rw [if_pos hfact]
  exact ⟨Nat.lt_add_of_pos_right (Nat.lt_min.2 ⟨Nat.sub_pos_of_lt h, hp⟩),
    Nat.add_le_of_le_sub' (Nat.le_of_lt h) (Nat.min_le_left _ _), Nat.add_le_add_left (Nat.min_le_right _ _) _⟩

theorem ioCapInit_le (size : Nat) : ioCapInit size ≤ size ∧ ioCapInit size ≤ Gen.ioMaxPreallocate := by
  unfold ioCapInit
  have hfact : Gen.ioInitialCapacityBounded = true := by decide
  rw [if_pos hfact]
  exact ⟨Nat.min_le_left _ _, Nat.min_le_right _ _⟩

/-- A capacity is asked for only when the buffer is full, `cap = len < size`, and is then
`ioCapGrow size len` whatever it was before.  `P` is any bound on how far a grown capacity runs
ahead of the bytes held. -/
theorem ioCapsLoop_asked (file : Bytes) (offset size P : Nat)
    (hg : ∀ len, len < size → ioCapGrow size len ≤ size ∧ ioCapGrow size len ≤ len + P)
    (script : List ReadEv) (len cap : Nat) (hlen : len ≤ file.length - offset) :
    ∀ e ∈ ioCapsLoop file offset size len cap script,
      e.1 ≤ e.2 + P ∧ e.2 ≤ file.length - offset ∧ e.1 ≤ size := by
  -- `cap'` is the `if cap = len then ioCapGrow size len else cap` of the model
  have hasked : ∀ {len cap cap' : Nat}, ¬size ≤ len → len ≤ file.length - offset →
      (cap = len → cap' = ioCapGrow size len) → ∀ e ∈ (if cap = len then [(cap', len)] else []),
        e.1 ≤ e.2 + P ∧ e.2 ≤ file.length - offset ∧ e.1 ≤ size := by
    intro len cap cap' hdone hlen hc'
    obtain ⟨h1, h2⟩ := hg len (Nat.lt_of_not_ge hdone)
    split
    · next h => rw [hc' h]; exact List.forall_mem_singleton.2 ⟨h2, hlen, h1⟩
    · nofun
  fun_induction ioCapsLoop file offset size len cap script with
  | case1 | case2 => nofun
  | case3 len cap s hdone cap' asked ih =>
    exact List.forall_mem_append.2 ⟨hasked hdone hlen (if_pos ·), ih hlen⟩
  | case4 len cap s hdone => exact hasked hdone hlen (if_pos ·)
  | case5 len cap s hdone => exact hasked hdone hlen (if_pos ·)
  | case6 len cap s hdone cap' asked n got _ ih =>
    -- a read fills at most what the file has
    exact List.forall_mem_append.2 ⟨hasked hdone hlen (if_pos ·),
      ih (Nat.add_le_of_le_sub' hlen (Nat.sub_sub .. ▸ Nat.min_le_right _ _))⟩

def maxFrame : List Nat → Nat
  | [] => 0
  | f :: fs => max f (maxFrame fs)

theorem httpSingleStop_eq (have_ size : Nat) : httpSingleStop have_ size = decide (have_ ≥ size) := by
  unfold httpSingleStop
  rw [if_pos (by decide)]

/-- From any `acc ≤ size`: either the next frame stops the loop, adding one frame to at most `size`,
or it leaves `acc + f < size`. -/
theorem httpSingleTake_bounded (size : Nat) (frames : List Nat) (acc : Nat) (h : acc ≤ size) :
    httpSingleTake size acc frames ≤ size + maxFrame frames := by
  fun_induction httpSingleTake size acc frames with
  | case1 => exact Nat.le_add_right_of_le h
  | case2 acc f fs => exact Nat.add_le_add h (Nat.le_max_left _ _)
  | case3 acc f fs hgo ih =>
    rw [httpSingleStop_eq, decide_eq_true_eq] at hgo
    exact Nat.le_trans (ih (Nat.le_of_lt (Nat.lt_of_not_ge hgo)))
      (Nat.add_le_add_left (Nat.le_max_right _ _) _)

end Bita.Proofs
