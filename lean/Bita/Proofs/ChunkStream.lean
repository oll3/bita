/-
  Delivery independence of the streaming chunker model (C09).

  What a chunker state would emit with the rest of the source buffered (`ref`) does not change
  when the chunks at hand are handed out first (`drain_spec`, from `next_grow`); so every read
  script emits a prefix of it, and all of it when it reaches the end of the source (`run_ref`).
-/
import Bita.Spec.Tiling
import Bita.Proofs.ChunkStreamMach

namespace Bita.Proofs.CS
open Bita Bita.Spec

def SInv (sc : SC) : Prop := sc.have_ ≤ sc.rest.length ∧ CInv sc.ch sc.have_

theorem drain_have_zero (f : Nat) (sc : SC) (h : sc.have_ = 0) : SC.drain f sc = ([], sc) := by
  cases f <;> simp [SC.drain, h]

variable {sc : SC} {ch' : Chunker} {f n : Nat}

theorem drain_none (h0 : sc.have_ ≠ 0) (e : sc.ch.next sc.rest sc.have_ = (ch', none)) :
    SC.drain (f + 1) sc = ([], { sc with ch := ch' }) := by
  rw [SC.drain, if_neg h0]; dsimp only; rw [e]

theorem drain_some (h0 : sc.have_ ≠ 0) (e : sc.ch.next sc.rest sc.have_ = (ch', some n)) :
    SC.drain (f + 1) sc =
      if n = 0 then ([], { sc with ch := ch' })
      else ((sc.start, n) :: (SC.drain f ⟨sc.start + n, sc.rest.drop n, sc.have_ - n, ch'⟩).1,
        (SC.drain f ⟨sc.start + n, sc.rest.drop n, sc.have_ - n, ch'⟩).2) := by
  rw [SC.drain, if_neg h0]; dsimp only; rw [e]

/-- The fuel only has to outlast the buffered bytes: every chunk handed out takes at least one. -/
theorem drain_fuel {f1 f2 : Nat} (h1 : sc.have_ < f1) (h2 : sc.have_ < f2) :
    SC.drain f1 sc = SC.drain f2 sc := by
  induction f1 generalizing f2 sc with
  | zero => omega
  | succ f1 ih =>
    obtain ⟨f2, rfl⟩ := Nat.exists_eq_add_one_of_ne_zero (Nat.ne_zero_of_lt h2)
    by_cases h0 : sc.have_ = 0
    · rw [drain_have_zero _ _ h0, drain_have_zero _ _ h0]
    · rcases e : sc.ch.next sc.rest sc.have_ with ⟨ch', _ | n⟩
      · rw [drain_none h0 e, drain_none h0 e]
      · rw [drain_some h0 e, drain_some h0 e]
        by_cases hn : n = 0
        · rw [if_pos hn, if_pos hn]
        · rw [if_neg hn, if_neg hn, ih (f2 := f2) (by dsimp only; omega) (by dsimp only; omega)]

theorem SInv_after_some (hi : SInv sc) (e : sc.ch.next sc.rest sc.have_ = (ch', some n)) :
    SInv ⟨sc.start + n, sc.rest.drop n, sc.have_ - n, ch'⟩ ∧ 1 ≤ n ∧ n ≤ sc.have_ ∧
      ∀ h', sc.have_ ≤ h' → h' ≤ sc.rest.length → sc.ch.next sc.rest h' = (ch', some n) := by
  obtain ⟨_, h1, h2, h3, h4⟩ := next_grow hi.2 hi.1 e
  refine ⟨⟨?_, CInv_mono (Nat.zero_le _) h1⟩, h2, h3, h4⟩
  rw [List.length_drop]
  exact Nat.sub_le_sub_right hi.1 n

/-- The tail emitted at the end of the source. -/
def tailOf (sc : SC) : List (Nat × Nat) := if sc.have_ = 0 then [] else [(sc.start, sc.have_)]

/-- The same chunker with the whole source in the buffer.  `full ⟨s, rest, h, ch⟩` is by definition
the `⟨s, rest, rest.length, ch⟩` of `ref` and `ref_some`, and is used as that. -/
def full (sc : SC) : SC := { sc with have_ := sc.rest.length }

theorem SInv_full (sc : SC) (hi : SInv sc) : SInv (full sc) :=
  ⟨Nat.le_refl _, CInv_mono hi.1 hi.2⟩

/-- What chunker `ch` emits from `start` on when all of `rest` is buffered. -/
def ref (start : Nat) (rest : Bytes) (ch : Chunker) : List (Nat × Nat) :=
  (SC.drain (rest.length + 1) ⟨start, rest, rest.length, ch⟩).1 ++
    tailOf (SC.drain (rest.length + 1) ⟨start, rest, rest.length, ch⟩).2

theorem ref_congr {s : Nat} {rest : Bytes} {ch1 ch2 : Chunker}
    (e : ch1.next rest rest.length = ch2.next rest rest.length) : ref s rest ch1 = ref s rest ch2 := by
  unfold ref
  rw [SC.drain, SC.drain]
  dsimp only
  rw [e]
  split
  · rfl
  · split <;> rfl

theorem ref_some {s : Nat} {rest : Bytes} {ch : Chunker} (hi : SInv ⟨s, rest, rest.length, ch⟩)
    (e : ch.next rest rest.length = (ch', some n)) :
    ref s rest ch = (s, n) :: ref (s + n) (rest.drop n) ch' := by
  obtain ⟨-, b, c, -⟩ := SInv_after_some hi e
  have h0 : rest.length ≠ 0 := by dsimp only at c; omega
  unfold ref
  rw [drain_some h0 e, if_neg (by omega), List.length_drop,
    drain_fuel (f2 := rest.length - n + 1) (by dsimp only at c ⊢; omega) (Nat.lt_succ_self _)]
  rfl

theorem drain_spec {sc' : SC} {cs : List (Nat × Nat)} (hi : SInv sc) (hf : sc.have_ < f)
    (hd : SC.drain f sc = (cs, sc')) :
    SInv sc' ∧ sc'.rest.length - sc'.have_ = sc.rest.length - sc.have_ ∧
      chunkerMax sc'.ch = chunkerMax sc.ch ∧ sc'.have_ < chunkerMax sc.ch ∧
      ref sc.start sc.rest sc.ch = cs ++ ref sc'.start sc'.rest sc'.ch := by
  -- the cases of `SC.drain`: no fuel, nothing buffered, a cut of 0 bytes (the invariant rules it
  -- out), a chunk, "need more data"
  fun_induction SC.drain f sc generalizing cs sc' with
  | case1 => omega
  | case2 f sc h0 =>
    cases hd
    exact ⟨hi, rfl, rfl, h0 ▸ CInv_pos hi.2, rfl⟩
  | case3 f sc h0 ch' e => exact absurd (SInv_after_some hi e).2.1 (Nat.lt_irrefl 0)
  | case4 f sc h0 ch' n e hn cs1 sc1 hd1 ih =>
    cases hd
    obtain ⟨a, b, c, d⟩ := SInv_after_some hi e
    obtain ⟨i1, i2, i3, i4, i5⟩ := ih a (by dsimp only; omega) hd1
    rw [(next_grow hi.2 hi.1 e).1] at i3 i4
    refine ⟨i1, i2.trans ?_, i3, i4, ?_⟩
    · rw [List.length_drop]
      exact Nat.sub_sub_sub_cancel_right c
    · rw [ref_some (SInv_full _ hi) (d _ hi.1 (Nat.le_refl _)), i5]
      rfl
  | case5 f sc h0 ch' e =>
    cases hd
    obtain ⟨hm, hc, hlt, hg⟩ := next_grow hi.2 hi.1 e
    exact ⟨⟨hi.1, hc⟩, rfl, hm, hlt, (ref_congr (hg _ hi.1 (Nat.le_refl _))).symm⟩

theorem SInv_more (sc : SC) (hi : SInv sc) (m : Nat) :
    SInv { sc with have_ := sc.have_ + min m (sc.rest.length - sc.have_) } :=
  ⟨by have := hi.1; dsimp only; omega, CInv_mono (by dsimp only; omega) hi.2⟩

theorem run_ref (script : List Rd) (sc : SC) (hi : SInv sc) :
    ∃ r, ref sc.start sc.rest sc.ch = SC.run sc script ++ r ∧
      (Complete script (sc.rest.length - sc.have_) = true → r = []) := by
  -- the cases of `SC.run`: script exhausted, `Pending`, end of source, more bytes
  fun_induction SC.run sc script with
  | case1 sc cs sc' hd => exact ⟨_, (drain_spec hi (Nat.lt_succ_self _) hd).2.2.2.2, nofun⟩
  | case2 sc cs sc' hd s ih =>
    obtain ⟨a, b, -, -, hr⟩ := drain_spec hi (Nat.lt_succ_self _) hd
    obtain ⟨r, hr', hc⟩ := ih a
    exact ⟨r, by rw [hr, hr', List.append_assoc], fun h => hc (b ▸ h)⟩
  | case3 sc cs sc' hd n s he =>
    -- the whole source was in the buffer before this poll, so `ref` is this poll and the tail
    obtain ⟨a, b, -⟩ := drain_spec hi (Nat.lt_succ_self _) hd
    obtain ⟨s0, rest0, h0, ch0⟩ := sc
    obtain rfl : h0 = rest0.length := by have := hi.1; dsimp only at b this; omega
    exact ⟨[], by rw [List.append_nil, ref, hd]; rfl, fun _ => rfl⟩
  | case4 sc cs sc' hd n s he ih =>
    obtain ⟨a, b, -, -, hr⟩ := drain_spec hi (Nat.lt_succ_self _) hd
    obtain ⟨r, hr', hc⟩ := ih (SInv_more sc' a (max n 1))
    refine ⟨r, by rw [hr, hr', List.append_assoc], fun h => hc ?_⟩
    rw [← b, Complete, if_neg (by have := a.1; omega), ← Nat.sub_add_eq] at h
    exact h

theorem complete_ref (n : Nat) : Complete [.bytes n, .bytes 1] n = true := by
  simp only [Complete]
  split
  · rfl
  · have : n - min (max n 1) n = 0 := by omega
    simp [this]

theorem SInv_init (cfg : Config) (hv : cfg.Valid) (data : Bytes) :
    SInv ⟨0, data, 0, Chunker.ofConfig cfg⟩ :=
  ⟨Nat.zero_le _, CInv_ofConfig cfg hv⟩

theorem chunkAll_eq_ref (cfg : Config) (hv : cfg.Valid) (data : Bytes) :
    chunkAll cfg data = ref 0 data (Chunker.ofConfig cfg) := by
  obtain ⟨r, hr, hc⟩ := run_ref [.bytes data.length, .bytes 1] _ (SInv_init cfg hv data)
  rw [hc (complete_ref data.length), List.append_nil] at hr
  exact hr.symm

end Bita.Proofs.CS

namespace Bita.Proofs
open Bita Bita.Spec Bita.Proofs.CS

theorem stream_independent_of_delivery (cfg : Config) (hv : cfg.Valid) (data : Bytes)
    (script : List Rd) (hc : Complete script data.length = true) :
    chunkStream cfg data script = chunkAll cfg data := by
  obtain ⟨r, hr, h⟩ := run_ref script _ (SInv_init cfg hv data)
  rw [h hc, List.append_nil] at hr
  rw [chunkAll_eq_ref cfg hv, hr]; rfl

theorem stream_prefix (cfg : Config) (hv : cfg.Valid) (data : Bytes) (script : List Rd) :
    ∃ rest, chunkAll cfg data = chunkStream cfg data script ++ rest := by
  obtain ⟨r, hr, _⟩ := run_ref script _ (SInv_init cfg hv data)
  exact ⟨r, by rw [chunkAll_eq_ref cfg hv, hr]; rfl⟩

end Bita.Proofs
