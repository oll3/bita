/-
  The HTTP chunk reader against an honest server.  The whole stream equals the run-level
  specification `fetchAll`, run after run (`http_resume_runs`, `http_resume`: C08); what `fetchAll`
  itself says about complete scripts and failures; the requests are the maximal runs (C07).
-/
import Bita.Proofs.HttpResume

namespace Bita.Proofs
open Bita Bita.Spec

section
variable (data : Bytes) (retry : Nat)

theorem runRequest_cons {c : ChunkOffset} {r : List ChunkOffset} (hc : Contiguous (c :: r)) :
    runRequest (c :: r) = (c.offset, total (c :: r)) := by
  have h := contiguous_getLast_stop hc
  simp only [runRequest, List.head?_cons, List.getLast?_eq_some_getLast (l := c :: r) (by simp)]
  rw [h]; simp

theorem fetchAll_cons (run : List ChunkOffset) (runs : List (List ChunkOffset))
    (script : List Resp) :
    fetchAll data retry (run :: runs) script =
      runSpec data run (fetchAll data retry runs)
        (fetchRun ((runRequest run).1 + (runRequest run).2) (runRequest run).1 retry script) := by
  rw [fetchAll]
  dsimp only
  generalize fetchRun _ _ retry script = res
  obtain ⟨pos, rq, e, s⟩ := res
  cases e <;> rfl

/-- For any division into separated contiguous runs, not only `maximalRuns`.  Only the first chunk of
a run has to have a byte (a run is requested and counted as a whole), and only the run has to end
inside the data. -/
theorem http_resume_runs :
    ∀ (runs : List (List ChunkOffset)), Separated runs →
      (∀ r ∈ runs, r ≠ [] ∧ Contiguous r ∧ (∀ c ∈ r.head?, 1 ≤ c.size) ∧
        ∀ c ∈ r.getLast?, c.stop ≤ data.length) →
      ∀ script, CR.run (slice data) retry script ⟨runs.flatten, [], 0, none⟩ =
        fetchAll data retry runs script := by
  intro runs
  induction runs with
  | nil => intro _ _ script; simp [run_nil_chunks, fetchAll]
  | cons run runs ih =>
    intro hsep hall script
    obtain ⟨⟨hrun, hc, hc1, hlast⟩, hruns⟩ := List.forall_mem_cons.1 hall
    have hnext : Separated runs ∧ ∀ c ∈ runs.flatten.head?, 1 ≤ c.size := by
      cases runs with
      | nil => exact ⟨trivial, nofun⟩
      | cons r2 rs =>
        cases r2 with
        | nil => exact absurd rfl (hruns [] (List.mem_cons_self ..)).1
        | cons d r2 => exact ⟨hsep.2, (hruns _ (List.mem_cons_self ..)).2.2.1⟩
    cases run with
    | nil => exact absurd rfl hrun
    | cons c r =>
      have hin : c.offset + total (c :: r) ≤ data.length :=
        contiguous_getLast_stop hc ▸ hlast _ (List.getLast?_eq_some_getLast (List.cons_ne_nil c r))
      rw [List.flatten_cons, List.cons_append, run_ensure (hc1 c rfl), ← List.cons_append,
        ensureReq_run hc (separated_head (fun x hx => (hruns x hx).1) hsep), fetchAll_cons,
        runRequest_cons hc, ← funext (ih hnext.1 hruns)]
      exact run_eq_runSpec data retry hnext.2 hin script (m := 0) (rl := retry) hc rfl rfl
        (Nat.zero_add _) (hc1 c rfl)

theorem fetchAll_full :
    ∀ (runs : List (List ChunkOffset)) (script : List Resp),
      (∀ r ∈ script, ∃ fr, r = Resp.full fr) → runs.length ≤ script.length →
      fetchAll data retry runs script =
        ⟨runs.flatten.map (exactItem data), runs.map runRequest⟩ := by
  intro runs
  induction runs with
  | nil => intro script _ _; simp [fetchAll]
  | cons run runs ih =>
    intro script hfull hlen
    cases script with
    | nil => simp at hlen
    | cons x s =>
      obtain ⟨fr, rfl⟩ := hfull x (by simp)
      rw [fetchAll_cons, fetchRun]
      simp [runSpec, ih s (fun r hr => hfull r (List.mem_cons_of_mem _ hr)) (by simpa using hlen)]

theorem filter_prefix (pos : Nat) (l : List ChunkOffset) (hc : Contiguous l) :
    ∃ j, j ≤ l.length ∧ l.filter (fun c => c.stop ≤ pos) = l.take j := by
  induction l with
  | nil => exact ⟨0, by simp, by simp⟩
  | cons a l ih =>
    by_cases h : a.stop ≤ pos
    · obtain ⟨j, hj, he⟩ := ih (contiguous_tail hc)
      refine ⟨j + 1, by simp; omega, ?_⟩
      rw [List.filter_cons_of_pos (by simpa using h), he]
      simp
    · refine ⟨0, by simp, ?_⟩
      rw [filter_stuck hc (Nat.lt_of_not_le h)]
      simp

theorem fetchAll_prefix :
    ∀ (runs : List (List ChunkOffset)) (script : List Resp), (∀ r ∈ runs, Contiguous r) →
      ∃ k tail, k ≤ runs.flatten.length ∧
        (fetchAll data retry runs script).items =
          (runs.flatten.take k).map (exactItem data) ++ tail ∧
        ((tail = [] ∧ k = runs.flatten.length ∧ runs.length ≤ script.length) ∨
          tail = [Item.stall] ∨ tail = [Item.errHttp] ∨ tail = [Item.errEnd]) := by
  intro runs
  induction runs with
  | nil => intro script _; exact ⟨0, [], Nat.le_refl _, rfl, .inl ⟨rfl, rfl, Nat.zero_le _⟩⟩
  | cons run runs ih =>
    intro script hc
    have hend := fetchRun_end ((runRequest run).1 + (runRequest run).2) (runRequest run).1 retry
      script
    rw [fetchAll_cons, List.flatten_cons, List.length_append]
    generalize fetchRun _ _ retry script = res at hend ⊢
    obtain ⟨pos, rq, e, s'⟩ := res
    cases e with
    | done =>
      obtain ⟨k, tail, hk, hitems, htail⟩ := ih s' (fun r hr => hc r (List.mem_cons_of_mem _ hr))
      have hlt : s'.length < script.length := by simpa using hend
      refine ⟨run.length + k, tail, Nat.add_le_add_left hk _, ?_, htail.imp_left fun ⟨h1, h2, h3⟩ =>
        ⟨h1, congrArg _ h2, Nat.le_trans (Nat.succ_le_succ h3) hlt⟩⟩
      simp [runSpec, hitems, List.take_length_add_append]
    | fail it =>
      obtain ⟨j, hj, he⟩ := filter_prefix pos run (hc run (by simp))
      refine ⟨j, [it], Nat.le_trans hj (Nat.le_add_right _ _), ?_, by simpa using hend⟩
      simp only [runSpec]
      rw [he, List.take_append_of_le_length hj]

end

theorem http_resume (data : Bytes) (retry : Nat) (chunks : List ChunkOffset) (script : List Resp)
    (hsize : ∀ c ∈ chunks, 1 ≤ c.size)
    (hin : ∀ c ∈ chunks, c.stop ≤ data.length) :
    httpReadChunks (fun off size => slice data off size) retry script chunks =
      fetchAll data retry (maximalRuns chunks) script := by
  obtain ⟨hflat, hruns, hsep⟩ := maximalRuns_spec chunks
  have hmem : ∀ r ∈ maximalRuns chunks, ∀ c ∈ r, c ∈ chunks := fun r hr c hc =>
    hflat ▸ List.mem_flatten.2 ⟨r, hr, hc⟩
  have := http_resume_runs data retry (maximalRuns chunks) hsep (fun r hr => ⟨(hruns r hr).1,
    (hruns r hr).2, fun c hc => hsize c (hmem r hr c (List.mem_of_mem_head? hc)),
    fun c hc => hin c (hmem r hr c (List.mem_of_getLast? hc))⟩) script
  rwa [hflat] at this

theorem requests_are_maximal_runs (data : Bytes) (retry : Nat) (chunks : List ChunkOffset)
    (script : List Resp)
    (hsize : ∀ c ∈ chunks, 1 ≤ c.size)
    (hin : ∀ c ∈ chunks, c.stop ≤ data.length)
    (hfull : ∀ r ∈ script, ∃ fr, r = Resp.full fr)
    (hlen : (maximalRuns chunks).length ≤ script.length) :
    httpReadChunks (fun off size => slice data off size) retry script chunks =
      ⟨chunks.map (fun c => Item.chunk (slice data c.offset c.size)),
       (maximalRuns chunks).map runRequest⟩ := by
  rw [http_resume data retry chunks script hsize hin,
    fetchAll_full data retry (maximalRuns chunks) script hfull hlen, (maximalRuns_spec chunks).1]
  rfl

theorem runRequest_bounds (r : List ChunkOffset) (a b : ChunkOffset)
    (hc : Contiguous r) (hsize : ∀ c ∈ r, 1 ≤ c.size)
    (ha : r.head? = some a) (hb : r.getLast? = some b) :
    (runRequest r).1 = a.offset ∧ (runRequest r).1 + (runRequest r).2 - 1 = b.stop - 1 ∧
    rangeHeader (runRequest r).1 (runRequest r).2 = s!"bytes={a.offset}-{b.stop - 1}" := by
  cases r with
  | nil => cases ha
  | cons c r' =>
    cases ha
    rw [List.getLast?_eq_some_getLast (by simp), Option.some.injEq] at hb
    have e : a.offset + total (a :: r') - 1 = b.stop - 1 := by
      rw [← hb, contiguous_getLast_stop hc]
    rw [runRequest_cons hc]
    exact ⟨rfl, e, congrArg (fun n => s!"bytes={a.offset}-{n}") e⟩

theorem http_items_exact_prefix (data : Bytes) (retry : Nat) (chunks : List ChunkOffset)
    (script : List Resp)
    (hsize : ∀ c ∈ chunks, 1 ≤ c.size) (hin : ∀ c ∈ chunks, c.stop ≤ data.length) :
    ∃ k tail, k ≤ chunks.length ∧
      (httpReadChunks (fun off size => slice data off size) retry script chunks).items =
        (chunks.take k).map (exactItem data) ++ tail ∧
      ((tail = [] ∧ k = chunks.length) ∨ tail = [Item.stall] ∨ tail = [Item.errHttp] ∨
        tail = [Item.errEnd]) := by
  rw [http_resume data retry chunks script hsize hin]
  have hspec := maximalRuns_spec chunks
  obtain ⟨k, tail, hk, hitems, htail⟩ :=
    fetchAll_prefix data retry (maximalRuns chunks) script (fun r hr => (hspec.2.1 r hr).2)
  rw [hspec.1] at hk hitems htail
  exact ⟨k, tail, hk, hitems, htail.imp_left fun h => ⟨h.1, h.2.1⟩⟩

end Bita.Proofs
