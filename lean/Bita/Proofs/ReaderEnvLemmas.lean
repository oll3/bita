/-
  The reader models (`HttpEnv`, `IoEnv`) against the honest reader of `Clone.run`: `read_at` of both
  models is the honest one when the transport delivers, and so is `read_chunks` on every list of
  ranges taken from the archive's descriptors (what a clone requests).  Also what each of the two
  calls puts on the wire over HTTP when every response is complete.
-/
import Bita.Model.ReaderEnv
import Bita.Proofs.CloneRun
import Bita.Proofs.FetchCompletes
import Bita.Proofs.IoReader

namespace Bita.Proofs
open Bita Bita.Spec

theorem Item.toOpt_eq_some {it : Item} {b : Bytes} (h : it.toOpt = some b) : it = .chunk b := by
  cases it <;> cases h
  rfl

theorem httpReadAt_honest {archive : Bytes} {retry off size : Nat} {fr : List Nat} {rest : List Resp}
    (hsize : 1 ≤ size) :
    honestReadAt archive off size =
      (httpReadAt (honestServe archive) retry off size (Resp.full fr :: rest)).1.toOpt := by
  rw [httpReadAt, if_neg (by omega)]
  dsimp only
  unfold honestServe honestReadAt
  by_cases hin : off + size ≤ archive.length
  · rw [if_pos hin, if_pos (by rw [slice_length hin]; exact Nat.le_refl _), slice_take, Nat.min_self]
    rfl
  · -- a range reaching beyond the end gets a short body, hence `UnexpectedEnd`
    rw [if_neg hin, if_neg (by rw [length_slice]; omega)]
    rfl

theorem http_readAt_honest_env {archive : Bytes} {e : HttpEnv} (hserve : e.serve = honestServe archive)
    (hat : ∀ off size, ∃ frags rest, e.atScript off size = Resp.full frags :: rest) :
    ∀ off size, 1 ≤ size → honestReadAt archive off size = e.readAt off size := by
  intro off size hsz
  obtain ⟨fr, rest, hsc⟩ := hat off size
  rw [HttpEnv.readAt, hsc, hserve]
  exact httpReadAt_honest hsz

theorem http_wire_readAt {e : HttpEnv}
    (hat : ∀ off size, ∃ frags rest, e.atScript off size = Resp.full frags :: rest) {off size : Nat}
    (hne : off + size ≠ 0) : e.wire (.readAt off size) = [(off, size)] := by
  obtain ⟨fr, rest, hsc⟩ := hat off size
  rw [HttpEnv.wire, hsc, httpReadAt, if_neg hne]

theorem ioReadAt_sound (file : Bytes) (off : Nat) {size : Nat} (hsize : size ≠ 0) (script : List ReadEv) :
    (ioReadAt file off size script = Item.chunk (slice file off size) ∧ off + size ≤ file.length) ∨
      (ioReadAt file off size script).toOpt = none := by
  have h := ioFill_sound file off (Nat.pos_of_ne_zero hsize) script
  unfold ioReadAt
  rw [if_neg hsize]
  generalize ioFill file off size [] script = res at h ⊢
  cases res with
  | ok => exact .inl ⟨congrArg _ h.1, h.2⟩
  | fail => rcases h with rfl | rfl | rfl <;> exact .inr rfl

theorem ioReadAt_chunk_length {file : Bytes} {off size : Nat} {script : List ReadEv} {d : Bytes}
    (h : ioReadAt file off size script = Item.chunk d) : d.length = size := by
  by_cases hz : size = 0
  · rw [ioReadAt, if_pos hz] at h
    cases h
    exact hz.symm
  · rcases ioReadAt_sound file off hz script with ⟨hc, hle⟩ | hn
    · rw [hc] at h
      cases h
      exact slice_length hle
    · rw [h] at hn
      cases hn

theorem ioReadAt_honest {file : Bytes} {off size : Nat} {script : List ReadEv} (hsize : 1 ≤ size)
    (hok : ∀ e ∈ script, e = ReadEv.pending ∨ ∃ n, 1 ≤ n ∧ e = ReadEv.bytes n)
    (hcnt : size ≤ (script.filter (· ≠ ReadEv.pending)).length) :
    honestReadAt file off size = (ioReadAt file off size script).toOpt := by
  have hz : size ≠ 0 := Nat.ne_of_gt hsize
  unfold honestReadAt
  by_cases hin : off + size ≤ file.length
  · obtain ⟨rest, h1, -, -⟩ := ioFill_complete file off hsize hin script hok hcnt
    rw [if_pos hin, ioReadAt, if_neg hz, h1]
    rfl
  · rcases ioReadAt_sound file off hz script with ⟨-, hle⟩ | hn
    · exact absurd hle hin
    · rw [if_neg hin, hn]

theorem padItems_length (n : Nat) (items : List Item) : (padItems n items).length = n := by
  unfold padItems
  rw [List.length_take, List.length_append, List.length_map, List.length_replicate]
  omega

theorem padItems_exact (archive : Bytes) (ranges : List (Nat × Nat))
    (hr : ∀ c ∈ toChunkOffsets ranges, c.stop ≤ archive.length) :
    padItems ranges.length ((toChunkOffsets ranges).map (exactItem archive)) =
      honestReadChunks archive ranges := by
  unfold padItems honestReadChunks toChunkOffsets
  rw [List.length_map, List.length_map, Nat.sub_self, List.replicate_zero, List.append_nil,
    List.map_map, List.map_map, List.take_of_length_le (by rw [List.length_map]; exact Nat.le_refl _)]
  apply List.map_congr_left
  intro r hrm
  have : r.1 + r.2 ≤ archive.length := hr ⟨r.1, r.2⟩ (List.mem_map.2 ⟨r, hrm, rfl⟩)
  simp only [Function.comp_apply, exactItem, Item.toOpt, honestReadAt]
  rw [if_pos this]

theorem http_readChunks_honest {archive : Bytes} {e : HttpEnv} (hserve : e.serve = honestServe archive)
    {ranges : List (Nat × Nat)} (hr : ∀ c ∈ toChunkOffsets ranges, 1 ≤ c.size ∧ c.stop ≤ archive.length)
    (hscript : FetchCompletes archive e.retry (toChunkOffsets ranges) e.chunksScript) :
    e.readChunks ranges = honestReadChunks archive ranges := by
  have hs : honestServe archive = fun off size => slice archive off size := rfl
  unfold FetchCompletes at hscript
  rw [HttpEnv.readChunks, hserve, hs, http_resume archive e.retry _ _ (fun c h => (hr c h).1)
    (fun c h => (hr c h).2), hscript, padItems_exact archive ranges fun c h => (hr c h).2]

theorem io_readChunks_honest {e : IoEnv} {ranges : List (Nat × Nat)}
    (hr : ∀ c ∈ toChunkOffsets ranges, 1 ≤ c.size ∧ c.stop ≤ e.file.length)
    (hok : ∀ ev ∈ e.chunksScript, ev = ReadEv.pending ∨ ∃ n, 1 ≤ n ∧ ev = ReadEv.bytes n)
    (hlen : ((toChunkOffsets ranges).map (·.size)).sum ≤
      (e.chunksScript.filter (· ≠ ReadEv.pending)).length) :
    e.readChunks ranges = honestReadChunks e.file ranges := by
  rw [IoEnv.readChunks, io_reader_complete e.file _ [] e.chunksScript (fun c h => (hr c h).1)
    (fun c h => (hr c h).2) hok hlen, padItems_exact e.file ranges fun c h => (hr c h).2]

def archiveRanges (a : Archive) : List ChunkOffset :=
  a.chunks.map fun d => (⟨d.archiveOffset, d.archiveSize⟩ : ChunkOffset)

theorem descrRanges_sublist {a : Archive} {ds : List Descr} (h : ds.Sublist a.chunks) :
    (toChunkOffsets (ds.map fun d => (d.archiveOffset, d.archiveSize))).Sublist (archiveRanges a) := by
  rw [toChunkOffsets, List.map_map]
  exact h.map _

theorem archiveRanges_in_range (H : Bytes → Bytes) (decomp : Nat → Bytes → Nat → Option Bytes)
    (features : List Nat) (read : Nat → Nat → Option Bytes) (a : Archive) (archive : Bytes)
    (hinit : tryInit H features read = .ok a) (hs : Stored H decomp a archive) :
    ∀ c ∈ archiveRanges a, 1 ≤ c.size ∧ c.stop ≤ archive.length := by
  intro c hc
  simp only [archiveRanges, List.mem_map] at hc
  obtain ⟨d, hd, rfl⟩ := hc
  obtain ⟨-, -, hdescr, -⟩ := tryInit_ok_facts hinit
  exact ⟨(hdescr d hd).1, (hs d hd).1⟩

theorem runs_le_chunks {a : Archive} {chunks : List ChunkOffset} (hsub : chunks.Sublist (archiveRanges a)) :
    (maximalRuns chunks).length ≤ a.chunks.length :=
  Nat.le_trans (maximalRuns_length_le chunks)
    (Nat.le_trans hsub.length_le (Nat.le_of_eq (List.length_map _)))

theorem http_wire_readChunks {a : Archive} {archive : Bytes} {e : HttpEnv}
    (hserve : e.serve = honestServe archive)
    (hr : ∀ c ∈ archiveRanges a, 1 ≤ c.size ∧ c.stop ≤ archive.length)
    (hfull : ∀ r ∈ e.chunksScript, ∃ frags, r = Resp.full frags)
    (hlen : a.chunks.length ≤ e.chunksScript.length)
    {ranges : List (Nat × Nat)} (hsub : (toChunkOffsets ranges).Sublist (archiveRanges a)) :
    e.wire (.readChunks ranges) = (maximalRuns (toChunkOffsets ranges)).map runRequest := by
  rw [HttpEnv.wire, hserve]
  exact congrArg Out.reqs (requests_are_maximal_runs archive e.retry _ _
    (fun c hc => (hr c (hsub.subset hc)).1) (fun c hc => (hr c (hsub.subset hc)).2) hfull
    (Nat.le_trans (runs_le_chunks hsub) hlen))

theorem sublist_sum_le {l1 l2 : List Nat} (h : l1.Sublist l2) : l1.sum ≤ l2.sum := by
  induction h with
  | slnil => exact Nat.le_refl _
  | cons a _ ih => rw [List.sum_cons]; exact Nat.le_trans ih (Nat.le_add_left ..)
  | cons_cons a _ ih => rw [List.sum_cons, List.sum_cons]; exact Nat.add_le_add_left ih a

end Bita.Proofs
