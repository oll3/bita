/-
  What resynchronisation (C10) buys a clone (C06): when a seed carries the same data as the source
  from some point on and both chunkings place a boundary at the same position of that common
  data, every later source chunk is found in the seed, so none of them is fetched.
-/
import Bita.Proofs.CloneNoJunk

namespace Bita.Proofs
open Bita Bita.Spec

/-- **Reuse after an edit, at the level of chunks.**  Source `P1 ++ S`, seed `P2 ++ S`, a common
boundary `B ≥ window` into `S`: every source chunk that starts at or after that boundary is,
byte for byte, a chunk of the seed. -/
theorem resync_chunks_in_seed (cfg : Config) (hv : cfg.Valid) (hroll : ∀ n, cfg ≠ .fixed n)
    (P1 P2 S : Bytes) (B : Nat) (hB : windowOf cfg ≤ B) (hBS : B ≤ S.length)
    (h1 : IsEnd (chunkAll cfg (P1 ++ S)) (P1.length + B))
    (h2 : IsEnd (chunkAll cfg (P2 ++ S)) (P2.length + B)) :
    ∀ c ∈ chunkAll cfg (P1 ++ S), P1.length + B ≤ c.1 →
      ∃ c' ∈ chunkAll cfg (P2 ++ S), slice (P2 ++ S) c'.1 c'.2 = slice (P1 ++ S) c.1 c.2 := by
  intro c hc hge
  rw [chunkAll_eq_specChunks cfg hv] at h1 h2 hc ⊢
  have hm := (mem_chunksFrom (base := P1.length)).2 ⟨c, hc, hge, rfl⟩
  rw [spec_resync cfg hv hroll P1 P2 S B hB hBS h1 h2] at hm
  obtain ⟨c', hc', hge', he⟩ := mem_chunksFrom.1 hm
  obtain ⟨ho, hl⟩ := Prod.mk.inj he
  refine ⟨c', hc', ?_⟩
  rw [slice_append_right (Nat.le_of_add_right_le hge'), slice_append_right (Nat.le_of_add_right_le hge),
    ho, hl]

theorem seed_key_found (H : Bytes → Bytes) (a : Archive) {opts : CloneOpts} {prior : Bytes}
    {seeds : List Bytes} {s : Bytes} (hs : s ∈ seeds) {c : Nat × Nat} (hc : c ∈ chunkAll a.config s) :
    hashTruncate (H (slice s c.1 c.2)) a.hashLength ∈ foundKeys H a opts prior seeds :=
  List.mem_append_right _ (List.mem_flatMap.2 ⟨s, hs, List.mem_map_of_mem hc⟩)

/-- **Reuse after an edit, for the clone** (C10 ∘ C06).  The archive describes the source
`P1 ++ S` cut by the archive's own chunker; one of the seeds is `P2 ++ S`; both chunkings have a
boundary `B ≥ window` into `S`.  Then the one `read_chunks` request of a successful clone names
no descriptor of a source chunk that starts at or after that boundary - or a collision is
exhibited. -/
theorem unchanged_tail_not_fetched (H : Bytes → Bytes) (hH : ∀ x, (H x).length = 64)
    (decomp : Nat → Bytes → Nat → Option Bytes) (features : List Nat)
    (readAt : Nat → Nat → Option Bytes) (readChunks : List (Nat × Nat) → List (Option Bytes))
    (opts : CloneOpts) (prior : Bytes) (seeds : List Bytes)
    (a : Archive) (P1 P2 S : Bytes) (B : Nat)
    (hinit : tryInit H features readAt = .ok a)
    (hd : Describes H a (P1 ++ S) ((chunkAll a.config (P1 ++ S)).map fun c => slice (P1 ++ S) c.1 c.2))
    (hitems : ∀ ranges, (readChunks ranges).length = ranges.length)
    (hroll : ∀ n, a.config ≠ .fixed n)
    (hseed : P2 ++ S ∈ seeds)
    (hB : windowOf a.config ≤ B) (hBS : B ≤ S.length)
    (h1 : IsEnd (chunkAll a.config (P1 ++ S)) (P1.length + B))
    (h2 : IsEnd (chunkAll a.config (P2 ++ S)) (P2.length + B)) :
    let r := Clone.run H decomp features readAt readChunks opts prior seeds
    r.result = .ok →
      (∃ fetched : List Descr,
        r.requests = [ArchReq.readAt 0 Gen.preHeaderSize,
                      ArchReq.readAt Gen.preHeaderSize (a.headerSize - Gen.preHeaderSize),
                      ArchReq.readChunks (fetched.map fun d => (d.archiveOffset, d.archiveSize))] ∧
        (∀ d ∈ fetched, d ∈ a.chunks) ∧
        ∀ c ∈ chunkAll a.config (P1 ++ S), P1.length + B ≤ c.1 →
          ∀ d ∈ fetched, d.checksum ≠ hashTruncate (H (slice (P1 ++ S) c.1 c.2)) a.hashLength) ∨
      Collision H a.hashLength ((chunkAll a.config (P1 ++ S)).map fun c => slice (P1 ++ S) c.1 c.2) := by
  intro r hr
  refine (fetch_exact_nojunk H hH decomp features readAt readChunks opts prior seeds a _ _ hinit hd
    hitems hr).imp_left fun hq =>
      ⟨_, hq, fun d hd' => (List.mem_filter.1 hd').1, fun c hc hge d hd' heq => ?_⟩
  -- the chunk is, byte for byte, a chunk of the seed `P2 ++ S`, whose scan found its key
  obtain ⟨c', hc', hs⟩ := resync_chunks_in_seed a.config hd.valid hroll P1 P2 S B hB hBS h1 h2 c hc hge
  have hf := (List.mem_filter.1 hd').2
  rw [heq, hashTruncate_idem, ← hs,
    List.contains_iff_mem.2 (seed_key_found H a hseed hc')] at hf
  cases hf

end Bita.Proofs
