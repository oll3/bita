/-
  Facts about `Layout` (sorted list of disjoint regions): `insert`, `overlapping`, `remove`.
-/
import Bita.Model.Planner

namespace Bita.Proofs.Planner
open Bita

variable {κ : Type}

/-- Sorted by offset with pairwise disjoint regions. -/
def Disj (lay : Layout κ) : Prop := lay.Pairwise (fun a b => a.1.stop ≤ b.1.offset)

theorem Disj.sublist {l l' : Layout κ} (h : l'.Sublist l) (hd : Disj l) : Disj l' :=
  List.Pairwise.sublist h hd

theorem takeWhile_eq_filter {α : Type} (p : α → Bool) :
    ∀ (l : List α), l.Pairwise (fun a b => p b = true → p a = true) → l.takeWhile p = l.filter p
  | [], _ => rfl
  | a :: l, h => by
    rw [List.pairwise_cons] at h
    rw [List.takeWhile_cons, List.filter_cons, takeWhile_eq_filter p l h.2]
    cases hpa : p a with
    | true => rfl
    | false =>
      refine (List.filter_eq_nil_iff.2 fun e he hpe => ?_).symm
      rw [h.1 e he hpe] at hpa
      cases hpa

theorem keyLt_stop_zero (c loc : ChunkOffset) :
    Layout.keyLt c ⟨loc.stop, 0⟩ = true ↔ c.offset < loc.stop := by
  simp [Layout.keyLt]

theorem overlapping_sublist (lay : Layout κ) (loc : ChunkOffset) :
    (lay.overlapping loc).Sublist lay.reverse :=
  (List.takeWhile_sublist _).trans (List.reverse_sublist.2 List.filter_sublist)

/-- For a sorted layout of disjoint regions the reverse scan with early exit finds ALL
overlapping entries: along the reversed layout the regions end ever earlier. -/
theorem mem_overlapping {lay : Layout κ} (hd : Disj lay) (loc : ChunkOffset) (e : ChunkOffset × κ) :
    e ∈ lay.overlapping loc ↔ e ∈ lay ∧ e.1.offset < loc.stop ∧ loc.offset < e.1.stop := by
  unfold Layout.overlapping
  rw [takeWhile_eq_filter, List.mem_filter, List.mem_reverse, List.mem_filter, keyLt_stop_zero,
    decide_eq_true_eq, and_assoc]
  rw [List.pairwise_reverse]
  refine (Disj.sublist List.filter_sublist hd).imp fun {a b} hab h => ?_
  rw [decide_eq_true_eq] at h ⊢
  simp only [ChunkOffset.stop] at hab h ⊢
  omega

theorem forall_mem_insert {P : ChunkOffset × κ → Prop} {lay : Layout κ} {loc : ChunkOffset} {v : κ}
    (hn : P (loc, v)) (hl : ∀ e ∈ lay, P e) : ∀ e ∈ lay.insert loc v, P e := by
  fun_induction Layout.insert lay loc v with
  | case1 => exact List.forall_mem_singleton.2 hn
  | case2 l w rest h => exact List.forall_mem_cons.2 ⟨hn, hl⟩
  | case3 w rest h => exact List.forall_mem_cons.2 ⟨hn, (List.forall_mem_cons.1 hl).2⟩
  | case4 l w rest h1 h2 ih =>
    exact List.forall_mem_cons.2 ⟨(List.forall_mem_cons.1 hl).1, ih (List.forall_mem_cons.1 hl).2⟩

theorem forall_mem_foldl_insert {β : Type} {P : ChunkOffset × κ → Prop} (f : β → ChunkOffset × κ)
    (ms : List β) (lay : Layout κ) (hl : ∀ e ∈ lay, P e) (hm : ∀ m ∈ ms, P (f m)) :
    ∀ e ∈ ms.foldl (fun lay m => lay.insert (f m).1 (f m).2) lay, P e :=
  List.foldlRecOn (motive := fun lay => ∀ e ∈ lay, P e) ms _ hl
    fun _ hl m hm' => forall_mem_insert (hm m hm') hl

/-- Between non-empty disjoint regions the key order is the order of the regions. -/
theorem keyLt_of_disjoint {a b : ChunkOffset} (ha : 0 < a.size) (hb : 0 < b.size)
    (h : a.stop ≤ b.offset ∨ b.stop ≤ a.offset) :
    if Layout.keyLt a b = true then a.stop ≤ b.offset else a ≠ b ∧ b.stop ≤ a.offset := by
  simp only [Layout.keyLt, ChunkOffset.stop, Bool.or_eq_true, decide_eq_true_eq,
    Bool.and_eq_true] at h ⊢
  split
  · omega
  · exact ⟨fun hab => by subst hab; omega, by omega⟩

theorem insert_spec {lay : Layout κ} (hd : Disj lay) (hpos : ∀ e ∈ lay, 0 < e.1.size)
    {loc : ChunkOffset} (v : κ) (hloc : 0 < loc.size)
    (hdis : ∀ e ∈ lay, e.1.stop ≤ loc.offset ∨ loc.stop ≤ e.1.offset) :
    Disj (lay.insert loc v) ∧ ∀ e, e ∈ lay.insert loc v ↔ e = (loc, v) ∨ e ∈ lay := by
  induction lay with
  | nil => exact ⟨List.pairwise_singleton _ _, fun e => by simp [Layout.insert]⟩
  | cons x rest ih =>
    obtain ⟨l, w⟩ := x
    obtain ⟨hlr, hd'⟩ := List.pairwise_cons.1 hd
    obtain ⟨hlp, hpos'⟩ := List.forall_mem_cons.1 hpos
    obtain ⟨hl, hdis'⟩ := List.forall_mem_cons.1 hdis
    obtain ⟨ih1, ih2⟩ := ih hd' hpos' hdis'
    have hk := keyLt_of_disjoint hloc hlp hl.symm
    unfold Layout.insert
    by_cases h1 : Layout.keyLt loc l = true
    · rw [if_pos h1] at hk ⊢
      -- `loc` ends where `l` starts or before, and `l` before the rest
      exact ⟨List.pairwise_cons.2 ⟨List.forall_mem_cons.2 ⟨hk, fun b hb =>
        Nat.le_trans hk (Nat.le_trans (Nat.le_add_right _ _) (hlr b hb))⟩, hd⟩,
        fun e => List.mem_cons⟩
    · rw [if_neg h1] at hk ⊢
      rw [if_neg hk.1]
      refine ⟨List.pairwise_cons.2 ⟨forall_mem_insert hk.2 hlr, ih1⟩, fun e => ?_⟩
      rw [List.mem_cons, ih2 e, List.mem_cons]
      exact or_left_comm

theorem foldl_insert_spec {β : Type} (f : β → ChunkOffset × κ) (ms : List β) (lay : Layout κ)
    (hd : Disj lay) (hpos : ∀ e ∈ lay, 0 < e.1.size) (hmpos : ∀ m ∈ ms, 0 < (f m).1.size)
    (hlm : ∀ e ∈ lay, ∀ m ∈ ms, e.1.stop ≤ (f m).1.offset ∨ (f m).1.stop ≤ e.1.offset)
    (hmm : ms.Pairwise fun a b => (f a).1.stop ≤ (f b).1.offset ∨ (f b).1.stop ≤ (f a).1.offset) :
    Disj (ms.foldl (fun lay m => lay.insert (f m).1 (f m).2) lay) ∧
    ∀ e, e ∈ ms.foldl (fun lay m => lay.insert (f m).1 (f m).2) lay ↔ e ∈ lay ∨ ∃ m ∈ ms, e = f m := by
  induction ms generalizing lay with
  | nil => simp [hd]
  | cons m ms ih =>
    obtain ⟨hm1, hm2⟩ := List.pairwise_cons.1 hmm
    obtain ⟨hmp, hmpos'⟩ := List.forall_mem_cons.1 hmpos
    obtain ⟨hdi, hmem⟩ := insert_spec hd hpos (f m).2 hmp fun e he => hlm e he m List.mem_cons_self
    obtain ⟨ih1, ih2⟩ := ih (lay.insert (f m).1 (f m).2) hdi (forall_mem_insert hmp hpos) hmpos'
      (forall_mem_insert hm1 fun e he m' hm' => hlm e he m' (List.mem_cons_of_mem _ hm')) hm2
    refine ⟨ih1, fun e => ?_⟩
    rw [List.foldl_cons, ih2 e, hmem e]
    simp only [List.mem_cons, exists_eq_or_imp]
    exact or_assoc.trans or_left_comm

theorem remove_sublist (lay : Layout κ) (loc : ChunkOffset) : (Layout.remove lay loc).Sublist lay :=
  List.filter_sublist

theorem mem_remove {lay : Layout κ} {loc : ChunkOffset} {e : ChunkOffset × κ} :
    e ∈ Layout.remove lay loc ↔ e ∈ lay ∧ e.1 ≠ loc := by
  simp [Layout.remove, List.mem_filter]

end Bita.Proofs.Planner
