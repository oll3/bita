/-
  Composition of the reader models (C08) with opening and cloning (C01, C04, C15, C17): the
  abstract reader functions of `tryInit` / `Clone.run` instantiated with the models of
  `HttpReader` and `IoReader` under any transport behaviour; and what a whole clone over HTTP puts
  on the wire (`clone_http_wire`, C06 ∘ C07).
-/
import Bita.Proofs.CloneNoJunk
import Bita.Proofs.ReaderEnvLemmas
import Bita.Proofs.FetchCompletes
import Bita.Proofs.HttpReadAt

namespace Bita.Proofs
open Bita Bita.Spec

/-- For *any* server and transport behaviour the HTTP `read_at` keeps the reader contract
(exactly `size` bytes or an error), so `tryInit_total` applies to every remote archive. -/
theorem http_env_exact (e : HttpEnv) : ExactReader e.readAt :=
  fun off size b h =>
    (httpReadAt_spec e.serve off size _ e.retry).2.1 b (Item.toOpt_eq_some h)

theorem io_env_exact (e : IoEnv) : ExactReader e.readAt :=
  fun _ _ _ h => ioReadAt_chunk_length (Item.toOpt_eq_some h)

/-- **Soundness over HTTP** (C04 for servers): the header that was opened describes `src`; the
server may answer the chunk requests with anything, the transport may fail anywhere.  A clone
that reports success has produced the source, or a collision of the truncated strong hash with
a genuine source chunk is exhibited (colliding junk chunks in the prior output are irrelevant). -/
theorem clone_http_sound (H : Bytes → Bytes) (hH : ∀ x, (H x).length = 64)
    (decomp : Nat → Bytes → Nat → Option Bytes) (features : List Nat) (e : HttpEnv)
    (opts : CloneOpts) (prior : Bytes) (seeds : List Bytes)
    (a : Archive) (src : Bytes) (cks : List Bytes)
    (hinit : tryInit H features e.readAt = .ok a) (hd : Describes H a src cks) :
    let r := Clone.run H decomp features e.readAt e.readChunks opts prior seeds
    r.result = .ok →
      (setLen r.output src.length = src ∧ (opts.blockDev = false → r.output = src)) ∨
      Collision H a.hashLength cks :=
  clone_sound_nojunk H hH decomp features e.readAt e.readChunks opts prior seeds a src cks hinit hd
    (fun _ => padItems_length _ _)

/-- **Completeness through any reader** that answers like the honest one over conforming archive
bytes: every `read_at` of at least one byte, and `read_chunks` for every sublist of the archive's
descriptor ranges (a clone requests one such list). -/
theorem clone_complete_env {H : Bytes → Bytes} (hH : ∀ x, (H x).length = 64)
    {decomp : Nat → Bytes → Nat → Option Bytes} {features : List Nat} {archive : Bytes}
    {readAt : Nat → Nat → Option Bytes} {readChunks : List (Nat × Nat) → List (Option Bytes)}
    {opts : CloneOpts} {prior : Bytes} (seeds : List Bytes)
    {a : Archive} {src : Bytes} {cks : List Bytes}
    (hrd : ∀ off size, 1 ≤ size → honestReadAt archive off size = readAt off size)
    (hch : ∀ ranges, (toChunkOffsets ranges).Sublist (archiveRanges a) →
      readChunks ranges = honestReadChunks archive ranges)
    (hinit : tryInit H features (honestReadAt archive) = .ok a) (hd : Describes H a src cks)
    (hs : Stored H decomp a archive)
    (hpin : ∀ pin, opts.headerPin = some pin → pin = a.headerChecksum)
    (hdev : opts.blockDev = true → src.length ≤ prior.length) :
    let r := Clone.run H decomp features readAt readChunks opts prior seeds
    (r.result = .ok ∧ setLen r.output src.length = src ∧ (opts.blockDev = false → r.output = src)) ∨
      Collision H a.hashLength cks := by
  dsimp only
  rw [run_congr decomp opts prior seeds (tryInit_ok_congr hrd hinit) hinit
    (fun _ => hch _ (descrRanges_sublist List.filter_sublist))]
  exact clone_complete_nojunk H hH decomp features archive opts prior seeds a src cks hinit hd hs hpin hdev

/-- **Completeness over HTTP** (C01 / C17 "locally and over HTTP"): an honest server over archive
bytes that conform, header reads that get an answer, and a transport script under which the
C08 specification delivers the chunk lists a clone of `a` can request - sublists of the
archive's descriptor ranges (`archiveRanges a`): the clone succeeds and yields the source. -/
theorem clone_http_complete (H : Bytes → Bytes) (hH : ∀ x, (H x).length = 64)
    (decomp : Nat → Bytes → Nat → Option Bytes) (features : List Nat)
    (archive : Bytes) (e : HttpEnv) (opts : CloneOpts) (prior : Bytes) (seeds : List Bytes)
    (a : Archive) (src : Bytes) (cks : List Bytes)
    (hserve : e.serve = honestServe archive)
    (hat : ∀ off size, ∃ frags rest, e.atScript off size = Resp.full frags :: rest)
    (hinit : tryInit H features (honestReadAt archive) = .ok a) (hd : Describes H a src cks)
    (hs : Stored H decomp a archive)
    (hpin : ∀ pin, opts.headerPin = some pin → pin = a.headerChecksum)
    (hdev : opts.blockDev = true → src.length ≤ prior.length)
    (hscript : ∀ chunks : List ChunkOffset, chunks.Sublist (archiveRanges a) →
      FetchCompletes archive e.retry chunks e.chunksScript) :
    let r := Clone.run H decomp features e.readAt e.readChunks opts prior seeds
    (r.result = .ok ∧ setLen r.output src.length = src ∧ (opts.blockDev = false → r.output = src)) ∨
      Collision H a.hashLength cks :=
  clone_complete_env hH seeds (http_readAt_honest_env hserve hat)
    (fun _ hsub => http_readChunks_honest hserve
      (fun c hc => archiveRanges_in_range H decomp features _ a archive hinit hs c (hsub.subset hc))
      (hscript _ hsub))
    hinit hd hs hpin hdev

/-- Instance: every response of the chunk stream arrives completely (however fragmented) and
there are at least as many as the archive has descriptors. -/
theorem clone_http_complete_full (H : Bytes → Bytes) (hH : ∀ x, (H x).length = 64)
    (decomp : Nat → Bytes → Nat → Option Bytes) (features : List Nat)
    (archive : Bytes) (e : HttpEnv) (opts : CloneOpts) (prior : Bytes) (seeds : List Bytes)
    (a : Archive) (src : Bytes) (cks : List Bytes)
    (hserve : e.serve = honestServe archive)
    (hat : ∀ off size, ∃ frags rest, e.atScript off size = Resp.full frags :: rest)
    (hinit : tryInit H features (honestReadAt archive) = .ok a) (hd : Describes H a src cks)
    (hs : Stored H decomp a archive)
    (hpin : ∀ pin, opts.headerPin = some pin → pin = a.headerChecksum)
    (hdev : opts.blockDev = true → src.length ≤ prior.length)
    (hfull : ∀ r ∈ e.chunksScript, ∃ frags, r = Resp.full frags)
    (hlen : a.chunks.length ≤ e.chunksScript.length) :
    let r := Clone.run H decomp features e.readAt e.readChunks opts prior seeds
    (r.result = .ok ∧ setLen r.output src.length = src ∧ (opts.blockDev = false → r.output = src)) ∨
      Collision H a.hashLength cks :=
  clone_http_complete H hH decomp features archive e opts prior seeds a src cks hserve hat hinit hd
    hs hpin hdev (fun chunks hsub => fetchCompletes_of_full archive e.retry chunks e.chunksScript hfull
      (Nat.le_trans (runs_le_chunks hsub) hlen))

/-- Instance: at most `--http-retry-count` failing responses in the whole chunk stream, no body
that ends early without an error, and at least as many complete responses as the archive has
descriptors. -/
theorem clone_http_complete_budget (H : Bytes → Bytes) (hH : ∀ x, (H x).length = 64)
    (decomp : Nat → Bytes → Nat → Option Bytes) (features : List Nat)
    (archive : Bytes) (e : HttpEnv) (opts : CloneOpts) (prior : Bytes) (seeds : List Bytes)
    (a : Archive) (src : Bytes) (cks : List Bytes)
    (hserve : e.serve = honestServe archive)
    (hat : ∀ off size, ∃ frags rest, e.atScript off size = Resp.full frags :: rest)
    (hinit : tryInit H features (honestReadAt archive) = .ok a) (hd : Describes H a src cks)
    (hs : Stored H decomp a archive)
    (hpin : ∀ pin, opts.headerPin = some pin → pin = a.headerChecksum)
    (hdev : opts.blockDev = true → src.length ≤ prior.length)
    (hbad : (e.chunksScript.filter (fun r => match r with | .full _ => false | .part _ _ cut => cut | .refuse => true)).length ≤ e.retry)
    (hnoend : ∀ r ∈ e.chunksScript, ∀ n frags, r ≠ Resp.part n frags false)
    (hlen : a.chunks.length ≤
      (e.chunksScript.filter (fun r => match r with | .full _ => true | _ => false)).length) :
    let r := Clone.run H decomp features e.readAt e.readChunks opts prior seeds
    (r.result = .ok ∧ setLen r.output src.length = src ∧ (opts.blockDev = false → r.output = src)) ∨
      Collision H a.hashLength cks := by
  have hb : (fun r : Resp => match r with | .full _ => false | .part _ _ cut => cut | .refuse => true) =
      respCut := by
    funext r; cases r <;> rfl
  have hf : (fun r : Resp => match r with | .full _ => true | _ => false) = respFull := by
    funext r; cases r <;> rfl
  rw [hb] at hbad
  rw [hf] at hlen
  exact clone_http_complete H hH decomp features archive e opts prior seeds a src cks hserve hat hinit hd
    hs hpin hdev (fun chunks hsub => fetchCompletes_of_budget archive e.retry chunks e.chunksScript
      hbad hnoend (Nat.le_trans (runs_le_chunks hsub) hlen))

/-- **Completeness through the local reader** under any short-read / `Pending` behaviour that
eventually delivers. -/
theorem clone_io_complete (H : Bytes → Bytes) (hH : ∀ x, (H x).length = 64)
    (decomp : Nat → Bytes → Nat → Option Bytes) (features : List Nat)
    (e : IoEnv) (opts : CloneOpts) (prior : Bytes) (seeds : List Bytes)
    (a : Archive) (src : Bytes) (cks : List Bytes)
    (hat : ∀ off size, (∀ ev ∈ e.atScript off size, ev = ReadEv.pending ∨ ∃ n, 1 ≤ n ∧ ev = ReadEv.bytes n) ∧
      size ≤ ((e.atScript off size).filter (· ≠ ReadEv.pending)).length)
    (hcs : (∀ ev ∈ e.chunksScript, ev = ReadEv.pending ∨ ∃ n, 1 ≤ n ∧ ev = ReadEv.bytes n) ∧
      (a.chunks.map (·.archiveSize)).sum ≤ (e.chunksScript.filter (· ≠ ReadEv.pending)).length)
    (hinit : tryInit H features (honestReadAt e.file) = .ok a) (hd : Describes H a src cks)
    (hs : Stored H decomp a e.file)
    (hpin : ∀ pin, opts.headerPin = some pin → pin = a.headerChecksum)
    (hdev : opts.blockDev = true → src.length ≤ prior.length) :
    let r := Clone.run H decomp features e.readAt e.readChunks opts prior seeds
    (r.result = .ok ∧ setLen r.output src.length = src ∧ (opts.blockDev = false → r.output = src)) ∨
      Collision H a.hashLength cks :=
  clone_complete_env hH seeds
    (fun off size hsz => ioReadAt_honest hsz (hat off size).1 (hat off size).2)
    (fun ranges hsub => io_readChunks_honest
      (fun c hc => archiveRanges_in_range H decomp features _ a e.file hinit hs c (hsub.subset hc)) hcs.1
      (Nat.le_trans (sublist_sum_le (hsub.map (·.size)))
        (Nat.le_trans (Nat.le_of_eq (by rw [archiveRanges, List.map_map]; rfl)) hcs.2)))
    hinit hd hs hpin hdev

/-- The descriptors a clone still lacks after scanning the prior output (in place) and the seeds,
as stored ranges in descriptor order. -/
def missingRanges (H : Bytes → Bytes) (a : Archive) (opts : CloneOpts) (prior : Bytes) (seeds : List Bytes) :
    List ChunkOffset :=
  (a.chunks.filter (fun d =>
    !(foundKeys H a opts prior seeds).contains (hashTruncate d.checksum a.hashLength))).map
    fun d => (⟨d.archiveOffset, d.archiveSize⟩ : ChunkOffset)

/-- An honest server, no transfer failure (every response complete, in any fragmentation): the
range requests of a successful clone, in the order they are sent, are one for the pre-header, one
for the rest of the header, and then one per maximal run of adjacent missing chunks. -/
theorem clone_http_wire (H : Bytes → Bytes) (hH : ∀ x, (H x).length = 64)
    (decomp : Nat → Bytes → Nat → Option Bytes) (features : List Nat)
    (archive : Bytes) (e : HttpEnv) (opts : CloneOpts) (prior : Bytes) (seeds : List Bytes)
    (a : Archive) (src : Bytes) (cks : List Bytes)
    (hserve : e.serve = honestServe archive)
    (hat : ∀ off size, ∃ frags rest, e.atScript off size = Resp.full frags :: rest)
    (hinit : tryInit H features (honestReadAt archive) = .ok a) (hd : Describes H a src cks)
    (hs : Stored H decomp a archive)
    (hfull : ∀ r ∈ e.chunksScript, ∃ frags, r = Resp.full frags)
    (hlen : a.chunks.length ≤ e.chunksScript.length) :
    let r := Clone.run H decomp features e.readAt e.readChunks opts prior seeds
    r.result = .ok →
      r.requests.flatMap e.wire =
        [(0, Gen.preHeaderSize), (Gen.preHeaderSize, a.headerSize - Gen.preHeaderSize)] ++
          (maximalRuns (missingRanges H a opts prior seeds)).map runRequest ∨
      Collision H a.hashLength cks := by
  intro r hok
  refine (fetch_exact_nojunk H hH decomp features e.readAt e.readChunks opts prior seeds a src cks
    (tryInit_ok_congr (http_readAt_honest_env hserve hat) hinit) hd (fun _ => padItems_length _ _)
    hok).imp_left fun hreq => ?_
  rw [hreq]
  simp only [List.flatMap_cons, List.flatMap_nil, List.append_nil]
  -- call by call; `missingRanges` is `toChunkOffsets` of the ranges requested
  rw [http_wire_readAt hat (by decide), http_wire_readAt hat (Nat.ne_of_gt (Nat.add_pos_left (by decide) _)),
    http_wire_readChunks hserve (archiveRanges_in_range H decomp features _ a archive hinit hs) hfull hlen
      (descrRanges_sublist List.filter_sublist),
    toChunkOffsets, List.map_map]
  rfl

end Bita.Proofs
