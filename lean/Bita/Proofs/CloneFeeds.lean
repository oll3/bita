/-
  Everything a clone feeds to its output (seed chunks, decoded archive chunks) is - unless a
  collision is exhibited - `feedAll content` of the list of keys fed.
-/
import Bita.Proofs.CloneKeys
import Bita.Proofs.InPlaceFeed

namespace Bita.Proofs
open Bita Bita.Spec Bita.Proofs.Exec

section
variable (key content : Bytes → Bytes)

/-- Every key the clone index still holds identifies its content among *all* byte strings. -/
def GoodSt (st : OutSt Bytes) : Prop :=
  ∀ k ∈ st.index.keys, ∀ x, key x = k → x = content k

variable {key content} {st : OutSt Bytes}

theorem feed_good (hg : GoodSt key content st) (x : Bytes) :
    st.feed (key x) x = st.feed (key x) (content (key x)) := by
  rcases Classical.em (key x ∈ st.index.keys) with h | h
  · exact congrArg (st.feed (key x)) (hg _ h x rfl)
  · simp only [OutSt.feed, (get_eq_none_iff _ _).2 h]

theorem goodSt_feedAll (hg : GoodSt key content st) (ks : List Bytes) :
    GoodSt key content (feedAll content st ks) :=
  fun k hk => hg k ((keys_feedAll content ks st k).1 hk).1

end

section
variable {H : Bytes → Bytes} {hl : Nat} {content : Bytes → Bytes}

theorem feedSeed_eq (cfg : Config) {st : OutSt Bytes} (hg : GoodSt (ckey H hl) content st) (seed : Bytes) :
    feedSeed H cfg hl st seed = feedAll content st (chunkKeys H cfg hl seed) := by
  unfold feedSeed chunkKeys
  generalize chunkAll cfg seed = cs
  induction cs generalizing st with
  | nil => rfl
  | cons c cs ih =>
    simp only [List.foldl_cons, List.map_cons, feedAll]
    rw [feed_good hg]
    exact ih (goodSt_feedAll hg [_])

theorem feedSeeds_eq (cfg : Config) (seeds : List Bytes) {st : OutSt Bytes}
    (hg : GoodSt (ckey H hl) content st) :
    seeds.foldl (feedSeed H cfg hl) st = feedAll content st (seeds.flatMap (chunkKeys H cfg hl)) := by
  induction seeds generalizing st with
  | nil => rfl
  | cons s seeds ih =>
    rw [List.foldl_cons, List.flatMap_cons, feedAll_append, feedSeed_eq cfg hg, ih (goodSt_feedAll hg _)]

end

/-- One step of `feedArchive`, named so that the fold can be taken apart. -/
def archStep (H : Bytes → Bytes) (decomp : Nat → Bytes → Nat → Option Bytes) (a : Archive)
    (acc : OutSt Bytes × Option String) (e : Descr × Option Bytes) : OutSt Bytes × Option String :=
  match acc.2 with
  | some _ => acc
  | none =>
    match e.2 with
    | none => (acc.1, some "read archive")
    | some stored =>
      match decodeChunk H decomp a.compression e.1 stored with
      | none => (acc.1, some "decompress or verify chunk")
      | some chunk => ((acc.1.feed (hashTruncate (H chunk) a.hashLength) chunk).1, none)

/-- The length is the declared one only by `Gen.chunkLengthChecked` (F19 repair). -/
theorem decodeChunk_some_inv (H : Bytes → Bytes) (decomp : Nat → Bytes → Nat → Option Bytes) (compr : Compr)
    (d : Descr) (stored chunk : Bytes) (h : decodeChunk H decomp compr d stored = some chunk) :
    chunk.length = d.sourceSize ∧ hashTruncate (H chunk) d.checksum.length = d.checksum := by
  unfold decodeChunk at h
  obtain ⟨c, -, hc⟩ := Option.bind_eq_some_iff.1 h
  obtain ⟨hlen, hc⟩ := Option.ite_none_left_eq_some.1 hc
  obtain ⟨hk, hc⟩ := Option.ite_none_right_eq_some.1 hc
  cases hc
  exact ⟨Decidable.not_not.1 fun hl => hlen ⟨by decide, hl⟩, hk⟩

section
variable {H : Bytes → Bytes} {decomp : Nat → Bytes → Nat → Option Bytes} {a : Archive}

theorem feedArchive_eq (st : OutSt Bytes) (fetch : List Descr) (items : List (Option Bytes)) :
    feedArchive H decomp a st fetch items = (fetch.zip items).foldl (archStep H decomp a) (st, none) := rfl

theorem archStep_ok {d : Descr} {stored chunk : Bytes}
    (h : decodeChunk H decomp a.compression d stored = some chunk) (st : OutSt Bytes) :
    archStep H decomp a (st, none) (d, some stored) =
      ((st.feed (ckey H a.hashLength chunk) chunk).1, none) := by
  simp only [archStep, h]

theorem archStep_err (st : OutSt Bytes) (w : String) (l : List (Descr × Option Bytes)) :
    l.foldl (archStep H decomp a) (st, some w) = (st, some w) := by
  induction l with
  | nil => rfl
  | cons e l ih => rw [List.foldl_cons]; exact ih

theorem archStep_cases {content : Bytes → Bytes} {st : OutSt Bytes}
    (hg : GoodSt (ckey H a.hashLength) content st) {d : Descr} (hck : d.checksum.length = a.hashLength)
    (it : Option Bytes) :
    (∃ w, archStep H decomp a (st, none) (d, it) = (st, some w)) ∨
      archStep H decomp a (st, none) (d, it) =
        (feedAll content st [hashTruncate d.checksum a.hashLength], none) := by
  cases it with
  | none => exact Or.inl ⟨_, rfl⟩
  | some stored =>
    cases hdc : decodeChunk H decomp a.compression d stored with
    | none => exact Or.inl ⟨_, by simp only [archStep, hdc]; rfl⟩
    | some chunk =>
      have hk := (decodeChunk_some_inv H decomp a.compression d stored chunk hdc).2
      rw [hck] at hk
      rw [archStep_ok hdc, feed_good hg chunk, ← hk, hashTruncate_idem]
      exact Or.inr rfl

theorem feedArchive_prefix {content : Bytes → Bytes} (fetch : List Descr) (items : List (Option Bytes))
    {st : OutSt Bytes} (hg : GoodSt (ckey H a.hashLength) content st)
    (hck : ∀ d ∈ fetch, d.checksum.length = a.hashLength) :
    ∃ n, (feedArchive H decomp a st fetch items).1 =
        feedAll content st ((fetch.take n).map fun d => hashTruncate d.checksum a.hashLength) ∧
      ((feedArchive H decomp a st fetch items).2 = none → fetch.length ≤ items.length →
        fetch.length ≤ n) := by
  induction fetch generalizing items st with
  | nil => exact ⟨0, rfl, fun _ _ => Nat.le_refl _⟩
  | cons d fetch ih =>
    cases items with
    | nil => exact ⟨0, rfl, fun _ h => absurd h (Nat.not_succ_le_zero _)⟩
    | cons it items =>
      rw [feedArchive_eq, List.zip_cons_cons, List.foldl_cons]
      rcases archStep_cases hg (hck d List.mem_cons_self) it with ⟨w, h⟩ | h
      · rw [h, archStep_err]
        exact ⟨0, rfl, nofun⟩
      · obtain ⟨n, h1, h2⟩ := ih items (goodSt_feedAll hg [_])
          (fun d' h' => hck d' (List.mem_cons_of_mem _ h'))
        rw [h, ← feedArchive_eq]
        exact ⟨n + 1, h1, fun hok hlen => Nat.succ_le_succ (h2 hok (Nat.le_of_succ_le_succ hlen))⟩

theorem feedArchive_honest {archive : Bytes} (hs : Stored H decomp a archive) {fetch : List Descr}
    (st : OutSt Bytes) (hsub : ∀ d ∈ fetch, d ∈ a.chunks) :
    (feedArchive H decomp a st fetch
      (honestReadChunks archive (fetch.map fun d => (d.archiveOffset, d.archiveSize)))).2 = none := by
  induction fetch generalizing st with
  | nil => rfl
  | cons d fetch ih =>
    obtain ⟨hr, chunk, hdc, _⟩ := hs d (hsub d (List.mem_cons_self ..))
    rw [feedArchive_eq]
    simp only [honestReadChunks, List.map_cons, List.zip_cons_cons, List.foldl_cons, honestReadAt,
      if_pos hr]
    rw [archStep_ok hdc]
    exact ih _ (fun d' h' => hsub d' (List.mem_cons_of_mem _ h'))

end

end Bita.Proofs
