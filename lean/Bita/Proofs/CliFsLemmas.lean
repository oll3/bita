/-
  The file-system model (`Fs.get`, `Fs.set`, `Fs.remove`, `Fs.openOut`) as a map: what every path
  holds after each operation; and the open-flag expressions read from the source, evaluated.
-/
import Bita.Model.Cli

namespace Bita.Proofs
open Bita Bita.Gen

theorem fs_get_nil (p : String) : Fs.get [] p = none := rfl

theorem fs_get_cons (e : String × Node) (fs : Fs) (p : String) :
    Fs.get (e :: fs) p = if e.1 = p then some e.2 else Fs.get fs p := by
  unfold Fs.get
  by_cases h : e.1 = p <;> simp [h]

theorem fs_get_append (fs fs' : Fs) (p : String) :
    Fs.get (fs ++ fs') p = (Fs.get fs p).or (Fs.get fs' p) := by
  induction fs with
  | nil => rfl
  | cons e fs ih => rw [List.cons_append, fs_get_cons, fs_get_cons, ih]; split <;> rfl

theorem fs_get_map (fs : Fs) (p q : String) (n : Node) :
    Fs.get (fs.map fun e => if e.1 = p then (p, n) else e) q =
      if q = p then (Fs.get fs p).map fun _ => n else Fs.get fs q := by
  induction fs with
  | nil => split <;> rfl
  | cons e fs ih =>
    rw [List.map_cons, fs_get_cons, fs_get_cons, fs_get_cons, ih]
    by_cases hq : q = p
    · subst hq; by_cases he : e.1 = q <;> simp [he]
    · by_cases he : e.1 = p <;> simp [he, hq, Ne.symm hq]

theorem fs_get_set (fs : Fs) (p q : String) (n : Node) :
    Fs.get (fs.set p n) q = if q = p then some n else Fs.get fs q := by
  unfold Fs.set
  cases hp : Fs.get fs p with
  | some m => by_cases hq : q = p <;> simp [fs_get_map, hp, hq]
  | none =>
    by_cases hq : q = p
    · simp [fs_get_append, fs_get_cons, hp, hq]
    · simp [fs_get_append, fs_get_cons, fs_get_nil, hq, Ne.symm hq]

theorem fs_get_remove (fs : Fs) (p q : String) :
    Fs.get (fs.remove p) q = if q = p then none else Fs.get fs q := by
  unfold Fs.remove
  induction fs with
  | nil => split <;> rfl
  | cons e fs ih =>
    by_cases he : e.1 = p
    · rw [List.filter_cons_of_neg (by simp [he]), ih, fs_get_cons, he]
      by_cases hq : q = p
      · simp [hq]
      · simp [hq, Ne.symm hq]
    · rw [List.filter_cons_of_pos (by simp [he]), fs_get_cons, fs_get_cons, ih]
      by_cases hq : q = p
      · simp [hq, he]
      · simp [hq]

theorem fs_get_openOut {fs fs1 : Fs} {p : String} {f : OpenFlags} (ho : fs.openOut p f = some fs1)
    (q : String) :
    Fs.get fs1 q = if q = p then
        some (match Fs.get fs p with
          | some (.regular d) => .regular (if f.truncate then [] else d)
          | some (.blockdev d) => .blockdev d
          | none => .regular [])
      else Fs.get fs q := by
  unfold Fs.openOut at ho
  cases hp : Fs.get fs p with
  | none =>
    simp only [hp] at ho
    split at ho
    · cases ho; exact fs_get_set fs p q _
    · cases ho
  | some nd =>
    simp only [hp] at ho
    split at ho
    · cases ho
    · by_cases hq : q = p
      · subst hq
        cases nd <;> split at ho <;> cases ho <;> simp [fs_get_set, *]
      · cases nd <;> split at ho <;> cases ho <;> simp [fs_get_set, hq]

theorem fs_openOut_isSome {fs fs1 : Fs} {p q : String} {f : OpenFlags} (ho : fs.openOut p f = some fs1)
    (h : (Fs.get fs q).isSome ∨ q = p) : (Fs.get fs1 q).isSome := by
  rw [fs_get_openOut ho]
  split
  · rfl
  · next hq => exact h.resolve_right hq

theorem fs_openOut_exists {fs : Fs} {p : String} {n : Node} (f : OpenFlags) (h : Fs.get fs p = some n)
    (hcn : f.createNew = true) : fs.openOut p f = none := by
  simp [Fs.openOut, h, hcn]

theorem fs_openOut_absent {fs : Fs} {p : String} (f : OpenFlags) (h : Fs.get fs p = none)
    (hc : f.create = true ∨ f.createNew = true) :
    fs.openOut p f = some (fs.set p (.regular [])) := by
  simp [Fs.openOut, h, hc]

theorem fs_openOut_present {fs : Fs} {p : String} {n : Node} (f : OpenFlags) (h : Fs.get fs p = some n)
    (hcn : f.createNew = false) (htr : f.truncate = false) : fs.openOut p f = some fs := by
  simp [Fs.openOut, h, hcn, htr]

theorem fs_openOut_truncate {fs : Fs} {p : String} (f : OpenFlags)
    (hnodev : ∀ d, Fs.get fs p ≠ some (.blockdev d))
    (hc : f.create = true) (hcn : f.createNew = false) (htr : f.truncate = true) :
    fs.openOut p f = some (fs.set p (.regular [])) := by
  unfold Fs.openOut
  cases h : Fs.get fs p with
  | none => simp [hc]
  | some n => cases n with
    | regular d => simp [hcn, htr]
    | blockdev d => exact absurd h (hnodev d)

theorem fs_map_id_of_not_mem (fs : Fs) (p : String) (n : Node) (h : p ∉ fs.map (·.1)) :
    fs.map (fun e => if e.1 = p then (p, n) else e) = fs := by
  induction fs with
  | nil => rfl
  | cons x xs ih =>
    simp only [List.map_cons, List.mem_cons, not_or] at h
    rw [List.map_cons, ih h.2, if_neg (Ne.symm h.1)]

theorem fs_set_self {fs : Fs} (hfs : (fs.map (·.1)).Nodup) {p : String} {n : Node}
    (h : Fs.get fs p = some n) : fs.set p n = fs := by
  unfold Fs.set
  rw [h, Option.isSome_some, if_pos rfl]
  induction fs with
  | nil => rfl
  | cons x xs ih =>
    rw [List.map_cons, List.nodup_cons] at hfs
    rw [fs_get_cons] at h
    rw [List.map_cons]
    by_cases hx : x.1 = p
    · rw [if_pos hx, Option.some.injEq] at h
      rw [fs_map_id_of_not_mem xs p n (hx ▸ hfs.1), if_pos hx, ← hx, ← h]
    · rw [if_neg hx] at h ⊢
      rw [ih hfs.2 h]

/-- The flag expressions `clone_cmd` opens the output with, as read from the source, evaluated. -/
theorem cloneOpen_flags (o : CliFlags) :
    OpenFlags.ofExprs cloneOpen o =
      some { read := o.verifyOutput || o.seedOutput, write := true, create := o.force || o.seedOutput,
             createNew := !o.force && !o.seedOutput, truncate := false } := rfl

-- What `OpenFlags.ofExprs` makes of the three flag expressions read from the source (`cloneOpen`,
-- `compressOpen`, `tempOpen`).
def cloneFlags (o : CliFlags) : OpenFlags :=
  { read := o.verifyOutput || o.seedOutput, write := true, create := o.force || o.seedOutput,
    createNew := !o.force && !o.seedOutput, truncate := false }

def compressFlags (o : CliFlags) : OpenFlags :=
  { read := true, write := true, create := o.force, createNew := !o.force, truncate := o.force }

def tempFlags : OpenFlags :=
  { read := false, write := true, create := true, createNew := false, truncate := true }

end Bita.Proofs
