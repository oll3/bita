/-
  Pieces of the writer pipeline (`Bita.dictionaryOf`): the descriptor fold as a recursion with
  its `j`-th element spelled out, the stored-bytes rule, and the dictionary itself written in terms
  of these (`dictionaryOf_eq`).
-/
import Bita.Model.Compress
import Bita.Proofs.ChunkRule

namespace Bita.Proofs.WriterDescr
open Bita Bita.Proto Bita.Spec

section
variable (H : Bytes → Bytes) (hashLen : Nat) (f : Bytes → Bytes)

/-- `descriptorsOf` on `uniq` and `uniq.map f`, as a structural recursion. -/
def descrFrom : Nat → List Bytes → List ChunkDescriptor
  | _, [] => []
  | off, u :: us =>
    { checksum := hashTruncate (H u) hashLen, archiveSize := (f u).length, archiveOffset := off,
      sourceSize := u.length } :: descrFrom (off + (f u).length) us

theorem descr_foldl (us : List Bytes) : ∀ (acc : List ChunkDescriptor × Nat),
    ((us.zip (us.map f)).foldl (fun (acc : List ChunkDescriptor × Nat) e =>
      (acc.1 ++ [{ checksum := hashTruncate (H e.1) hashLen, archiveSize := e.2.length,
                   archiveOffset := acc.2, sourceSize := e.1.length }], acc.2 + e.2.length)) acc).1
    = acc.1 ++ descrFrom H hashLen f acc.2 us := by
  induction us with
  | nil => intro acc; simp [descrFrom]
  | cons u us ih =>
    intro acc
    simp only [List.map_cons, List.zip_cons_cons, List.foldl_cons]
    rw [ih]
    simp [descrFrom]

theorem descriptorsOf_eq (us : List Bytes) :
    descriptorsOf H hashLen us (us.map f) = descrFrom H hashLen f 0 us := by
  unfold descriptorsOf
  rw [descr_foldl]
  simp

theorem descrFrom_archiveSize (us : List Bytes) :
    ∀ off, (descrFrom H hashLen f off us).map (·.archiveSize) = us.map (fun u => (f u).length) := by
  induction us with
  | nil => intro off; rfl
  | cons u us ih => intro off; simp [descrFrom, ih]

theorem descrFrom_length (us : List Bytes) (off : Nat) :
    (descrFrom H hashLen f off us).length = us.length := by
  simpa using congrArg List.length (descrFrom_archiveSize H hashLen f us off)

/-- The `j`-th descriptor, spelled out. -/
def descrAt (us : List Bytes) (j : Nat) (hj : j < us.length) : ChunkDescriptor :=
  { checksum := hashTruncate (H us[j]) hashLen, archiveSize := (f us[j]).length,
    archiveOffset := ((us.take j).map (fun u => (f u).length)).sum, sourceSize := us[j].length }

theorem descrFrom_getElem? (us : List Bytes) :
    ∀ off j (hj : j < us.length), (descrFrom H hashLen f off us)[j]? =
      some { descrAt H hashLen f us j hj with
        archiveOffset := off + (descrAt H hashLen f us j hj).archiveOffset } := by
  induction us with
  | nil => intro off j hj; simp at hj
  | cons u us ih =>
    intro off j hj
    cases j with
    | zero => simp [descrFrom, descrAt]
    | succ j =>
      rw [descrFrom, List.getElem?_cons_succ, ih _ j (by simpa using hj)]
      simp [descrAt, Nat.add_assoc]

variable {H hashLen f} {us : List Bytes}

theorem descrFrom_zero_getElem? {j : Nat} (hj : j < us.length) :
    (descrFrom H hashLen f 0 us)[j]? = some (descrAt H hashLen f us j hj) := by
  rw [descrFrom_getElem?, Nat.zero_add]

theorem descr_mem {cd : ChunkDescriptor} (hd : cd ∈ descrFrom H hashLen f 0 us) :
    ∃ j, ∃ hj : j < us.length, cd = descrAt H hashLen f us j hj := by
  obtain ⟨j, hj, rfl⟩ := List.mem_iff_getElem.mp hd
  have hj' := hj
  rw [descrFrom_length] at hj'
  exact ⟨j, hj', (List.getElem_eq_iff hj).mpr (descrFrom_zero_getElem? hj')⟩

end

/-- For both writers, as the rules read in `Gen.Facts`. -/
theorem storedBytes_cases (writer : String) (comp : Bytes → Bytes) (c : Bytes) :
    storedBytes writer comp c = c ∨
    (storedBytes writer comp c = comp c ∧ (comp c).length < c.length) := by
  have hlib : Gen.libStoreCompressedIf = "<" := rfl
  have hcli : Gen.cliStoreRawIf = ">=" := rfl
  unfold storedBytes
  dsimp only
  split
  · next h =>
    refine .inr ⟨rfl, ?_⟩
    rw [storeCompressed, if_pos hlib, if_pos hcli] at h
    by_cases hw : writer = "lib"
    · rw [if_pos hw] at h
      exact of_decide_eq_true (Option.some.inj h)
    · rw [if_neg hw] at h
      simpa using h
  · exact .inl rfl

theorem storedBytes_id (writer : String) (c : Bytes) : storedBytes writer id c = c :=
  (storedBytes_cases writer id c).elim id And.left

theorem storedBytes_length_le (writer : String) (comp : Bytes → Bytes) (c : Bytes) :
    (storedBytes writer comp c).length ≤ c.length := by
  rcases storedBytes_cases writer comp c with h | ⟨h, hl⟩
  · rw [h]; exact Nat.le_refl _
  · rw [h]; omega

/-- The codec actually applied. -/
def codecOf (o : CompressOpts) (comp : Bytes → Bytes) : Bytes → Bytes :=
  if o.compression.isSome then comp else id

/-- The dictionary a writer records for the unique chunks `us`, the rebuild order `order` and the
stored-bytes function `f`. -/
def dictOf (H : Bytes → Bytes) (o : CompressOpts) (src : Bytes) (us : List Bytes) (order : List Nat)
    (f : Bytes → Bytes) : ChunkDictionary :=
  { applicationVersion := Gen.pkgVersion.toUTF8.toList
    sourceChecksum := H src
    sourceTotalSize := src.length
    chunkerParams := some (paramsOf o.cfg o.hashLen)
    chunkCompression := some (match o.compression with
      | some (c, l) => ⟨c, l⟩
      | none => ⟨Gen.enum_CompressionType_NONE, 0⟩)
    rebuildOrder := order
    chunkDescriptors := descrFrom H o.hashLen f 0 us
    metadata := o.metadata }

theorem dictionaryOf_eq (H : Bytes → Bytes) (writer : String) (comp : Bytes → Bytes) (o : CompressOpts)
    (src : Bytes) :
    dictionaryOf H writer comp o src =
      (dictOf H o src (dedup H (chunksOf o.cfg src)).1 (dedup H (chunksOf o.cfg src)).2
        (storedBytes writer (codecOf o comp)),
       (dedup H (chunksOf o.cfg src)).1.map (storedBytes writer (codecOf o comp))) := by
  unfold dictOf
  rw [← descriptorsOf_eq]
  rfl

end Bita.Proofs.WriterDescr
